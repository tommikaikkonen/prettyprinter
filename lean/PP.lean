/-
Every module, in dependency order and by layer (Generated.lean, the tables the translator writes, belongs to the model).
A module imports only from its own layer and the layers before it.
-/
import PP.Model.Doc
import PP.Model.Normalize
import PP.Model.Layout
import PP.Model.Render
import PP.Model.PyStr
import PP.Model.Combinators
import PP.Model.StrDoc
import PP.Model.Values
import PP.Model.Registry
import PP.Model.Threads
import PP.Generated
import PP.Model.Config
import PP.Model.Color
import PP.Model.Graph
import PP.Model.Failures
import PP.Model.Cost
import PP.Model.Std
import PP.Model.Fields
import PP.Spec.Lay
import PP.Spec.CheckLay
import PP.Spec.Classic
import PP.Spec.FitSpec
import PP.Spec.Unescape
import PP.Spec.Tokens
import PP.Spec.Companions
import PP.Spec.DocTokens
import PP.Spec.Canon
import PP.Spec.Reader
import PP.Spec.Readable
import PP.Spec.Shown
import PP.Spec.Comments
import PP.Spec.TdReader
import PP.Proofs.LayInd
import PP.Proofs.LayNormalize
import PP.Proofs.Sound
import PP.Proofs.FitsE
import PP.Proofs.Sim
import PP.Proofs.SmartSpec
import PP.Proofs.StrLines
import PP.Proofs.ReprChar
import PP.Proofs.Escape
import PP.Proofs.RoundTrip
import PP.Proofs.EvalStr
import PP.Proofs.Toks
import PP.Proofs.TdKw
import PP.Proofs.ValInd
import PP.Proofs.SortK
import PP.Proofs.Guards
import PP.Proofs.CheckSound
import PP.Proofs.Commented
import PP.Proofs.ToksComb
import PP.Proofs.ToksStr
import PP.Proofs.ToksVal
import PP.Proofs.Shown
import PP.Proofs.NoBite
import PP.Proofs.SizeAttr
import PP.Proofs.SizeBasic
import PP.Proofs.SizeComment
import PP.Proofs.SizeComb
import PP.Proofs.EvBound
import PP.Proofs.SizeVal
import PP.Proofs.Comments
import PP.Proofs.ReaderRT
import PP.Proofs.ShownRd
import PP.Props.C04
import PP.Props.C05
import PP.Props.C06
import PP.Props.C02
import PP.Props.Values
import PP.Props.C15
import PP.Props.C19
import PP.Props.C20
import PP.Props.C18
import PP.Props.C16
import PP.Props.C13
import PP.Props.C14
import PP.Props.C12
import PP.Props.C07
import PP.Props.C03
import PP.Props.Limits
import PP.Props.C09b
import PP.Props.C01b
import PP.Props.TokensMore
import PP.Props.StateInventory
import PP.Props.C17b
import PP.Props.C08b
import PP.Props.C09c
import PP.Props.PrinterInventory
import PP.Props.C10b
import PP.Props.C07b
import PP.Props.C07c
import PP.Props.TdInventory
import PP.Props.SortSpec
import PP.Props.C06b
import PP.Props.C06c
