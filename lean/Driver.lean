import PP.Driver.Codec
import PP.Model.StrDoc
import PP.Driver.ValCodec
import PP.Driver.RegCodec
import PP.Driver.GraphCodec
import PP.Model.Color
import PP.Model.Cost
import PP.Spec.Unescape
import PP.Spec.Canon
import PP.Spec.Reader
import PP.Spec.TdReader
open PP PP.Sexp

def encodeCT : Tok.CT → Sexp
  | .code s => ofStr "c" s
  | .lit (some v) => ofStr "l" v
  | .lit none => sym "lbad"

partial def encodeRVal : Tok.RVal → Sexp
  | .num l => ofStr "num" l
  | .kw s => ofStr "kw" s
  | .str b s => .list (sym "str" :: ofNat (if b then 1 else 0) :: s.map ofNat)
  | .fspecial n => ofStr "fs" n
  | .list xs => .list (sym "list" :: xs.map encodeRVal)
  | .tuple xs => .list (sym "tuple" :: xs.map encodeRVal)
  | .set xs => .list (sym "set" :: xs.map encodeRVal)
  | .fset xs => .list (sym "fset" :: xs.map encodeRVal)
  | .dict kvs => .list (sym "dict" :: kvs.map fun (k, v) => .list [encodeRVal k, encodeRVal v])
  | .call name items => .list (sym "call" :: .list (name.map ofNat) :: items.map encodeRVal)
  | .kwarg name v => .list [sym "kwarg", .list (name.map ofNat), encodeRVal v]
  | .name s => ofStr "name" s

/-- one layout configuration `(w rw smart)` -/
def decodeCfg : Sexp → Option Cfg
  | .list [w, rw, sm] => do some { w := ← int? w, rw := ← int? rw, smart := (← nat? sm) == 1, ev := Pr.evalStr }
  | _ => none

def encodeOut : Color.Out → Sexp
  | .txt s => ofStr "t" s
  | .sgr t => .list [sym "sgr", ofNat t]
  | .reset => sym "reset"

def handle (req : Sexp) : Sexp :=
  match req with
  | .list (.atom "lay" :: d :: cfgs) =>
    match decodeDoc d, cfgs.mapM decodeCfg with
    | some d, some cfgs =>
      .list (sym "ok" :: cfgs.map fun cfg =>
        let out := layout cfg d
        .list [encodeSDocs out, ofStr "text" (render out)])
    | _, _ => sym "bad-request"
  | .list (.atom "graph" :: st :: root :: nodes) =>
    match decodeSettings st, nat? root, nodes.mapM decodeGNode with
    | some st, some root, some nodes => ofStr "ok" (Graph.pformatG st nodes.toArray root)
    | _, _, _ => sym "bad-request"
  | .list (.atom "fail" :: r) =>
    match failRequest r with
    | some x => x
    | none => sym "bad-request"
  | .list [.atom "cost", v, st] =>
    match decodeVal v, decodeSettings st with
    | some v, some st =>
      let d := (Pr.topDoc st.ctx v).normalize
      .list [sym "ok", ofNat (Pr.pyCalls v), ofNat (runC st.cfg [(0, .brk, .doc d)] 0)]
    | _, _ => sym "bad-request"
  | .list [.atom "color", out] =>
    match decodeSDocs out with
    | some out => .list (sym "ok" :: (Color.colorRender out).map encodeOut)
    | none => sym "bad-request"
  | .list [.atom "cpformat", v, st] =>
    match decodeVal v, decodeSettings st with
    | some v, some st => .list (sym "ok" :: (Color.colorRender (Pr.sdocsM st v)).map encodeOut)
    | _, _ => sym "bad-request"
  | .list (.atom "thr" :: r) =>
    match thrRequest r with
    | some x => x
    | none => sym "bad-request"
  | .list (.atom "reg" :: ops) =>
    match ops.mapM decodeRegOp with
    | some ops => .list (sym "ok" :: regTrace ops)
    | none => sym "bad-request"
  | .list [.atom "entry", .list us, e, v, .list endS] =>
    match us.mapM decodeExplicit, decodeExplicit e, decodeVal v, nats? endS with
    | some us, some e, some v, some endS =>
      let st := Conf.merge (Conf.setMany Conf.shipped us) e
      .list [sym "ok", ofStr "pformat" (Conf.pformatE us e v), ofStr "pprint" (Conf.pprintE us e v endS),
             ofStr "pretty_repr" (Conf.prettyReprE us v),
             (let d := Conf.setMany Conf.shipped us
              let on : Option Nat → Sexp := fun x => match x with | some n => ofNat n | none => sym "none"
              .list [sym "defaults", ofInt d.indent, ofInt d.width, ofInt d.ribbonWidth, on d.depth, on d.maxSeqLen,
                     ofNat (if d.sortKeys then 1 else 0)]),
             (let on : Option Nat → Sexp := fun x => match x with | some n => ofNat n | none => sym "none"
              .list [sym "effective", ofInt st.indent, ofInt st.width, ofInt st.ribbonWidth, on st.depth, on st.maxSeqLen,
                     ofNat (if st.sortKeys then 1 else 0)])]
    | _, _, _, _ => sym "bad-request"
  | .list (.atom "pformat" :: v :: sets) =>
    match decodeVal v, sets.mapM decodeSettings with
    | some v, some sets =>
      .list (sym "ok" :: sets.map fun st =>
        let out := Pr.sdocsM st v
        .list [encodeSDocs out, ofStr "text" (render out)])
    | _, _ => sym "bad-request"
  | .list (.atom "ctoks" :: v :: sets) =>
    match decodeVal v, sets.mapM decodeSettings with
    | some v, some sets =>
      .list (sym "ok" :: sets.map fun st =>
        .list [.list (sym "toks" :: (Tok.ctoks (Pr.sdocsM st v)).map encodeCT),
               .list (sym "canon" :: (Tok.canonW st.ctx.norm v none).map encodeCT),
               (let ts := Tok.canonW st.ctx.norm v none
                match Tok.parseV (2 * ts.length + 10) ts with
                | some (r, []) => .list [sym "read", encodeRVal r]
                | _ => .list [sym "read", sym "none"])])
    | _, _ => sym "bad-request"
  | .list (.atom "tdread" :: v :: sets) =>
    match decodeVal v, sets.mapM decodeSettings with
    | some v, some sets =>
      .list (sym "ok" :: sets.map fun st =>
        match C07.readTimedelta (Tok.ctoks (Pr.sdocsM st v)) with
        | some n => .list [sym (if n < 0 then "neg" else "pos"), ofNat n.natAbs]
        | none => sym "none")
    | _, _ => sym "bad-request"
  | .list [.atom "strlines", isB, slash, maxLen, q, .list chars] =>
    match nat? isB, nat? slash, nat? maxLen, nat? q, nats? chars with
    | some b, some sl, some ml, some q, some cs =>
      if h : 0 < ml then
        let ls := PyStr.strToLines (b == 1) (sl == 1) ml h q (cs.map decodePChar)
        .list (sym "ok" :: ls.map fun l => ofStr "s" (PyStr.cps l))
      else sym "assertion"
    | _, _, _, _, _ => sym "bad-request"
  | .list [.atom "esc", isB, q, .list chars] =>
    match nat? isB, nat? q, nats? chars with
    | some b, some q, some cs => ofStr "ok" (PyStr.escapeForQuote (b == 1) q (cs.map decodePChar))
    | _, _, _ => sym "bad-request"
  | .list [.atom "unesc", q, .list body] =>
    match nat? q, nats? body with
    | some q, some body =>
      match PyStr.unescape q body with
      | some v => ofStr "ok" v
      | none => sym "invalid"
    | _, _ => sym "bad-request"
  | .list [.atom "quote", .list chars] =>
    match nats? chars with
    | some cs => .list [sym "ok", ofNat (PyStr.determineQuote (cs.map decodePChar))]
    | _ => sym "bad-request"
  | .list [.atom "chk", strict, d, out] =>
    match nat? strict, decodeDoc d, decodeSDocs out with
    | some st, some d, some out => .list [sym "ok", ofNat (if checkLay (st == 1) d out then 1 else 0)]
    | _, _, _ => sym "bad-request"
  | _ => sym "bad-request"

partial def loop (hin : IO.FS.Stream) (hout : IO.FS.Stream) : IO Unit := do
  let line ← hin.getLine
  if line.isEmpty then return ()
  match Sexp.parse line with
  | some req => hout.putStrLn (toStr (handle req))
  | none => hout.putStrLn "bad-syntax"
  hout.flush
  loop hin hout

def main : IO Unit := do
  let hin ← IO.getStdin
  let hout ← IO.getStdout
  loop hin hout
  hout.flush
