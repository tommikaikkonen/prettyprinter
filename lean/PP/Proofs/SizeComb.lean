/-
C12: sizes of the documents the helpers build (`sequence_of_docs`, `build_fncall`) are linear in the sizes of their
arguments plus the comments they carry.  `rsize` is the measure of `Model/Doc.lean` (a choice counts its larger
alternative), so a comment shown above *or* after an element is paid once.
-/
import PP.Proofs.SizeComment
import PP.Proofs.Commented
namespace PP
namespace Pr
open Doc PyStr Tok

/-- cost (`cw`) of the comment an element carries, 0 without one -/
def cwC (d : Doc) : Nat := match commented? d with | some (c, _) => cw c | none => 0

/-- size of an element document plus the document of the comment it carries (which its parent builds) -/
def celt (d : Doc) : Nat := rsize d + cwC d

theorem rsize_le_celt (d : Doc) : rsize d ≤ celt d := Nat.le_add_right _ _

theorem celt_nc {d : Doc} (h : commented? d = none) : celt d = rsize d := by simp [celt, cwC, h]

@[rsz] theorem celt_comment (c : PS) (d : Doc) : celt (.ann (.comment c) d) = rsize d + 2 + cw c := by
  simp only [celt, cwC, commented?, rsz]

/-- The comment of an element goes above it or after it: both alternatives hold the same pieces, and the choice counts one. -/
theorem rsize_aboveOrAfter (c : PS) (xs ys : List Doc) :
    rsize (.group (.choice false (.cat (commentdoc c :: .hardline :: (xs ++ ys)))
      (.cat (xs ++ .text [32, 32] :: commentdoc c :: ys)))) ≤ rsizes xs + rsizes ys + cw c + 5 := by
  have := rsize_commentdoc c
  rw [rsize_group]
  refine Nat.succ_le_succ (rsize_choice_le ?_ ?_) <;> simp only [rsz] <;> omega

theorem rsizes_seqGo (dangle : Bool) (n : Nat) : ∀ (docs : List Doc) (idx : Nat),
    rsizes (seqParts.go dangle n docs idx) ≤ sumBy (fun d => celt d + 14) docs
  | [], _ => Nat.le_refl 0
  | d :: r, idx => by
    have ih := rsizes_seqGo dangle n r (idx + 1)
    rw [seqParts.go, sumBy]
    generalize (idx + 1 == n) = last
    cases d using commented_cases with
    | nc hc =>
      rw [hc, celt_nc hc]
      refine ite_le_of ?_ (Nat.add_le_add (Nat.le_add_right _ 14) ih)
      simp only [rsz]; omega
    | cm c inner =>
      have := (rsize_optComma (!last || dangle)).1
      have := (rsize_optHardline !last).1
      refine Nat.add_le_add (Nat.le_trans (rsize_aboveOrAfter c [_, _] [_]) ?_) ih
      simp only [rsz]; omega

theorem rsize_sequenceOfDocs (ind : Int) (left right : Doc) (docs : List Doc) (dangle fb : Bool) :
    rsize (sequenceOfDocs ind left docs right dangle fb) ≤ rsize left + rsize right + sumBy (fun d => celt d + 14) docs + 12 := by
  have h : rsizes (seqParts docs dangle) ≤ sumBy (fun d => celt d + 14) docs := rsizes_seqGo dangle docs.length docs 0
  unfold sequenceOfDocs
  simp only [rsz]
  generalize (dangle && _) = comma
  cases comma <;> simp [rsz] <;> omega

theorem rsizes_fncallParts (n : Nat) : ∀ (docs : List Doc) (idx : Nat) (hc : Bool),
    rsizes (fncallParts n docs idx hc).1 ≤ sumBy (fun d => celt d + 14) docs
  | [], _, _ => Nat.le_refl 0
  | d :: r, idx, hc => by
    rw [fncallParts, sumBy]
    generalize (idx + 1 == n) = last
    have := (rsize_optComma last).2
    cases d using commented_cases with
    | nc hcm =>
      have : rsize (if hc then .hardline else line) ≤ 2 := ite_le_of (by decide) (Nat.le_refl 2)
      rw [hcm, celt_nc hcm]
      exact Nat.add_le_add (ite_le_of (by simp only [rsz]; omega) (by simp only [rsz]; omega))
        (rsizes_fncallParts n r (idx + 1) hc)
    | cm c inner =>
      simp only [commented_ann]
      generalize hP : (if c.isEmpty then Doc.cat [inner, _] else _) = part
      have : rsize part ≤ rsize inner + cw c + 9 := hP ▸ ite_le_of (by simp only [rsz]; omega)
        (Nat.le_trans (rsize_aboveOrAfter c [_] []) (by simp only [rsz]; omega))
      rw [celt_comment]
      exact Nat.add_le_add (ite_le_of (by simp only [rsz, if_true]; omega) (by omega))
        (rsizes_fncallParts n r (idx + 1) true)

theorem celt_kwargDoc (b : Str) (d : Doc) : celt (kwargDoc b d) = celt d + 7 := by
  unfold kwargDoc
  cases d using commented_cases with
  | nc hcm => simp +arith only [hcm, celt_nc hcm, celt_nc (d := Doc.cat _) rfl, keywordArg, ASSIGN_OP, rsz]
  | cm c inner => simp +arith only [commented_ann, keywordArg, ASSIGN_OP, rsz]

theorem sumBy_kwargDoc (kw : List (Str × Doc)) :
    sumBy (fun d => celt d + 14) (kw.map fun p => kwargDoc p.1 p.2) = sumBy (fun p => celt p.2 + 21) kw := by
  induction kw with
  | nil => rfl
  | cons p r ih => simp only [List.map_cons, sumBy, ih, celt_kwargDoc]

theorem rsize_buildRest (ind : Int) (fn : Doc) (all : List Doc) :
    rsize (buildFncall.buildRest ind fn all none) ≤ rsize fn + sumBy (fun d => celt d + 14) all + 16 := by
  have h := rsizes_fncallParts all.length all 0 false
  simp only [buildFncall.buildRest, Bool.false_eq_true, if_false, rsz]
  omega

theorem rsize_buildFncall (ind : Int) (fn : Doc) (args : List Doc) (kw : List (Str × Doc)) (hug : Bool) :
    rsize (buildFncall ind fn args kw hug none) ≤
      rsize fn + sumBy (fun d => celt d + 14) args + sumBy (fun p => celt p.2 + 21) kw + 16 := by
  have hr := rsize_buildRest ind fn (args ++ kw.map fun p => kwargDoc p.1 p.2)
  rw [sumBy_append, sumBy_kwargDoc, ← Nat.add_assoc] at hr
  refine buildFncall_cases (C := (rsize · ≤ _)) ind fn args kw hug ?_ ?_ hr
  · intros; simp +arith only [rsz]
  · rintro a rfl rfl
    have := rsize_le_celt a
    simp only [rsz, sumBy]; omega

/-- how the printers wrap a literal in its class name -/
theorem rsize_call1 (ind : Int) (fn : QualName) (hug : Bool) {a : Doc} {k : Nat} (ha : commented? a = none)
    (hk : rsize a ≤ k) : rsize (buildFncall ind (generalIdentifier fn) [a] [] hug none) ≤ k + 33 := by
  have := rsize_buildFncall ind (generalIdentifier fn) [a] [] hug
  simp only [sumBy, rsize_gi, celt_nc ha] at this
  omega

theorem rsize_clsCall (ind : Int) (cls : Option QualName) {a : Doc} {k : Nat} (ha : commented? a = none) (hk : rsize a ≤ k) :
    rsize (match cls with | none => a | some q => buildFncall ind (generalIdentifier q) [a] [] false none) ≤ k + 33 := by
  cases cls with
  | none => exact Nat.le_add_right_of_le hk
  | some q => exact rsize_call1 _ _ _ ha hk

end Pr
end PP
