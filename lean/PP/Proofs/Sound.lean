/-
Soundness of the layout machine w.r.t. the reference semantics: whatever `run` emits for a stack is a
rendering, in the sense of `Lay`, of the documents on that stack — for both strategies, every width and ribbon.
`fun_induction run` numbers its cases in the order of the clauses of `run`; `fill` takes the last four (no item, one, two, more).
-/
import PP.Model.Layout
import PP.Proofs.LayNormalize
namespace PP
open Doc

/-- the evaluations a `pstr` node can take under a configuration -/
def Cfg.Ev (cfg : Cfg) (sp : StrSpec) (d : Doc) : Prop := ∃ i c, d = cfg.ev sp i c cfg.w cfg.rw

/-- the size clamp of `Cfg.evC` never fires (true of the real string evaluator: `Pr.evalStr_bounded`, Proofs/EvBound.lean) -/
def Cfg.EvBounded (cfg : Cfg) : Prop := ∀ sp i c, (cfg.ev sp i c cfg.w cfg.rw).normalize.size ≤ sp.bound

theorem Cfg.evC_eq {cfg : Cfg} (h : cfg.EvBounded) (sp i c) :
    cfg.evC sp i c = (cfg.ev sp i c cfg.w cfg.rw).normalize := by
  unfold Cfg.evC; simp [h sp i c]

variable {E : StrSpec → Doc → Prop}

theorem layStk_pushAll {i m ds r c out} (h : LayStk E (pushAll i m ds r) c out) :
    ∃ o1 o2 c1, out = o1 ++ o2 ∧ LayL E ds i m c o1 c1 ∧ LayStk E r c1 o2 := by
  induction ds generalizing c out with
  | nil => exact ⟨[], out, c, by simp, .nil, h⟩
  | cons d ds ih =>
    cases h with
    | doc hd hr =>
      obtain ⟨o1, o2, c1, rfl, hl, hs⟩ := ih hr
      exact ⟨_, _, _, by simp [List.append_assoc], .cons hd hl, hs⟩

theorem LayStk.inv_doc {i m d r c out} (h : LayStk E ((i, m, .doc d) :: r) c out) :
    ∃ o1 o2 c1, out = o1 ++ o2 ∧ Lay E d i m c o1 c1 ∧ LayStk E r c1 o2 := by
  cases h with | doc hd hr => exact ⟨_, _, _, rfl, hd, hr⟩

theorem LayStk.top {i i' m m' d d' r c out} (f : ∀ {o c1}, Lay E d' i' m' c o c1 → Lay E d i m c o c1)
    (h : LayStk E ((i', m', .doc d') :: r) c out) : LayStk E ((i, m, .doc d) :: r) c out := by
  cases h with | doc hd hr => exact .doc (f hd) hr

theorem lay_pick {m l b f i c o c'} (h : Lay E (pick m l b f) i m c o c') : Lay E (.choice l b f) i m c o c' := by
  cases m with
  | flat => exact .choiceF h
  | brk => cases l with
    | true => exact .choiceB (lay_normalize b h)
    | false => exact .choiceB h

theorem run_sound (cfg : Cfg) (hb : cfg.EvBounded) (stk : List Triple) (col : Int) :
    LayStk cfg.Ev stk col (run cfg stk col) := by
  fun_induction run cfg stk col with
  | case1 => exact .nil
  | case2 col i m r a ih => exact .pop ih
  | case3 col i m r ih => exact .doc .nil ih
  | case4 col i m r ih => exact .doc .hardline ih
  | case5 col i m r s ih => exact .doc .text ih
  | case6 col i m r ds ih =>
    obtain ⟨o1, o2, c1, h, hl, hs⟩ := layStk_pushAll ih
    exact h ▸ .doc hl.lay hs
  | case7 col i m r d ih => exact ih.top fun h => .align (lay_normalize _ h)
  | case8 col i m r sp ih => exact ih.top fun h => .pstr ⟨i, col, rfl⟩ (lay_normalize _ (Cfg.evC_eq hb .. ▸ h))
  | case9 col i m r a d ih =>
    obtain ⟨o1, o2, c1, h, hd, hr⟩ := ih.inv_doc
    cases hr with | pop hr' => simpa [h] using LayStk.doc (.ann (a := a) hd) hr'
  | case10 col i m r l b f ih => exact ih.top lay_pick
  | case11 col i m r j d ih => exact ih.top (.nest m (.inl rfl))
  | case12 col i m r d ih => exact ih.top .ab
  | case13 col i m r d a fit ih => exact ih.top (.group _)
  | case14 col i m r ih => exact .doc (.fill .nil) ih
  | case15 col i m r x a fit ih => exact ih.top fun h => .fill (by simpa using LayF.cons _ h .nil)
  | case16 col i m r x ws a fit ih =>
    obtain ⟨o1, o2, c1, h, hd, hr⟩ := ih.inv_doc
    obtain ⟨o3, o4, c2, rfl, hd2, hr'⟩ := hr.inv_doc
    simpa [h] using LayStk.doc (.fill (m := m) (.cons _ hd (.cons _ hd2 .nil))) hr'
  | case17 col i m r x ws y rest a fit fit2 ih =>
    obtain ⟨o1, o2, c1, h, hd, hr⟩ := ih.inv_doc
    obtain ⟨o3, o4, c2, rfl, hd2, hr'⟩ := hr.inv_doc
    obtain ⟨o5, o6, c3, rfl, hd3, hr''⟩ := hr'.inv_doc
    simpa [h] using LayStk.doc (.fill (m := m) (.cons _ hd (.cons _ hd2 hd3.inv_fill))) hr''

end PP
