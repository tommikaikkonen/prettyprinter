/-
C06, reason (c): the smart predicate holds exactly when every demand of the look-ahead is met (`demands`, `Met`: Spec/FitSpec.lean),
for documents without `align` and string contextuals (`Classic0`), whose evaluation depends on the column the predicate has in mind.
-/
import PP.Proofs.FitsE
namespace PP
open Doc

theorem Classic0.classic {d : Doc} (h : Classic0 d) : Classic d := by
  induction h with
  | cat _ ih => exact .cat ih
  | _ => simp [*]

@[simp] theorem allClassic0_pushAll {i m ds r} :
    AllClassic0 (pushAll i m ds r) ↔ (∀ d ∈ ds, Classic0 d) ∧ AllClassic0 r := forall_mem_pushAll

theorem AllClassic0.allClassic {stk} (h : AllClassic0 stk) : AllClassic stk := by
  intro t ht
  have := h t ht
  obtain ⟨i, m, it⟩ := t
  cases it with
  | doc d => exact Classic0.classic this
  | pop a => trivial

theorem classic0_pick {m l b f} (h : Classic0 (.choice l b f)) : Classic0 (pick m l b f) := by
  cases h <;> cases m <;> cases l <;> simp [pick, Doc.normalize]

theorem demands_head {cfg : Cfg} {mn budget : Int} {acc : Nat} {stk : List Triple} {obs : List (Int × Nat)}
    (h : demands cfg mn budget acc stk = some obs) : ∃ n rest, obs = (budget, n) :: rest ∧ acc ≤ n := by
  fun_induction demands cfg mn budget acc stk generalizing obs
  case case9 | case14 | case15 => cases h    -- `always_break`, `align`, a string: no demands
  case case1 | case11 => cases h; exact ⟨_, [], rfl, Nat.le_refl _⟩    -- the walk ends: the one demand `(budget, acc)`
  case case10 budget acc _ _ _ _ _ =>
    -- a line break the walk goes past: the current line is done, its demand is put in front of the later ones
    obtain ⟨o, -, rfl⟩ := Option.map_eq_some_iff.mp h
    exact ⟨acc, o, rfl, Nat.le_refl _⟩
  case case4 s ih => obtain ⟨n, rest, e, hn⟩ := ih h; exact ⟨n, rest, e, by omega⟩
  -- every other document leaves budget and count as they are
  all_goals rename_i ih; exact ih h

theorem fitsSmart_iff_demands (cfg : Cfg) (mn mw left : Int) (stk : List Triple) (hc : AllClassic0 stk)
    (budget : Int) (acc : Nat) (hl : left = budget - acc) :
    fitsSmart cfg mn mw left stk = true ↔ ∃ obs, demands cfg mn budget acc stk = some obs ∧ Met obs := by
  fun_induction fitsSmart cfg mn mw left stk generalizing budget acc
  case case1 left stk hneg =>
    -- out of budget: the demand for the current line, at least `acc`, is not met
    refine ⟨nofun, fun ⟨obs, hd, hm⟩ => ?_⟩
    obtain ⟨n, rest, rfl, hn⟩ := demands_head hd
    have := (met_cons.mp hm).1
    omega
  case case8 | case15 | case16 => simp at hc    -- `fill`, `align`, a string: not in the algebra
  case case10 => simp [demands]                -- `always_break`: rejected, and no demands
  case case2 | case12 =>
    -- the walk ends here (nothing left; a line break indented no more than `mn`): the one demand `acc ≤ budget` says `0 ≤ left`
    refine ⟨fun _ => ⟨[(budget, acc)], ?_, by simp only [Met, List.mem_singleton, forall_eq]; omega⟩, fun _ => rfl⟩
    simp only [demands, *, if_false]
  case case11 left hl0 i m r hi ih =>
    -- a line break indented more than `mn`: the current line is done, the walk goes on with the page's budget
    rw [demands, if_pos hi, ih (by simpa using hc) (cfg.w - i) 0 (by simp)]
    cases demands cfg mn (cfg.w - i) 0 r <;> simp [met_cons]
    omega
  case case5 s ih => unfold demands; exact ih (by simpa using hc) budget (acc + s.length) (by push_cast; omega)
  case case13 ih => unfold demands; exact ih (forall_mem_top hc classic0_pick) budget acc hl
  -- every other document: `demands` takes the step `fitsSmart` has taken, with the same budget and count
  all_goals rename_i ih; unfold demands; exact ih (by simpa using hc) budget acc hl

end PP
