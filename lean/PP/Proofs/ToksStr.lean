/-
The string evaluator is layout-invariant: every document `pretty_str`'s evaluator can return — one literal, or several
adjacent literals under any of the four multi-line strategies, in a constructor call for a subclass — carries the
canonical tokens of the value up to `TEq` (literal splitting and redundant parentheses).
-/
import PP.Proofs.ToksComb
import PP.Proofs.RoundTrip
import PP.Proofs.StrLines
import PP.Proofs.EvalStr
namespace PP
namespace Tok
open Doc PyStr Pr

theorem escapeSplit_join (fuel : Nat) : ∀ (s cur : Str), s.length < fuel →
    ((escapeSplit s fuel cur).map (·.1)).flatten = cur.reverse ++ s := by
  intro s cur hf
  fun_induction escapeSplit s fuel cur
  case case1 => omega
  case case2 h => simpa using h
  case case3 => simp
  case case4 ih => simp [ih (by simp at hf; omega)]
  case case5 n h ih =>
    have : n ≠ 0 := by simpa using h
    rw [List.map_append, List.flatten_append, List.map_cons, List.flatten_cons,
      ih (by simp only [List.length_drop, List.length_cons] at hf ⊢; omega)]
    split <;> simp_all

theorem textOf_highlight (s : Str) : textOf (highlightEscapes s) = s := by
  unfold highlightEscapes
  split
  · rename_i h; simp only [textOf]; simpa using h.symm
  · rw [textOf, textOfL_eq_flatMap, List.flatMap_map, List.flatMap_def]
    exact (escapeSplit_join _ s [] (by omega)).trans (List.nil_append s)

theorem plain_highlight (s : Str) : Plain (highlightEscapes s) = true := by
  unfold highlightEscapes
  split
  · rfl
  · rw [Plain, plainL_iff]; exact List.forall_mem_map.mpr fun _ _ => rfl

theorem decodeLit_quoted (q : Nat) (hq : q = SQ ∨ q = DQ) (body : Str) :
    decodeLit (q :: (body ++ [q])) = unescape q body := by
  have : (q == SQ || q == DQ) = true := by rcases hq with h | h <;> simp [h]
  simp [decodeLit, this]

def pieceToks (isBytes : Bool) (l : PS) : List CT :=
  (if isBytes then [CT.code [98]] else []) ++ [.lit (some (cps l))]

theorem toksOf_singleLine (isBytes : Bool) (q : Nat) (hq : q = SQ ∨ q = DQ) (l : PS)
    (hw : wfStr isBytes l) :
    toksOf (singleLineStr isBytes q l) = pieceToks isBytes l := by
  have hd := decodeLit_quoted q hq (escapeForQuote isBytes q l)
  rw [PyStr.unescape_escape isBytes q hq l hw] at hd
  unfold singleLineStr pieceToks
  cases isBytes <;>
    simp [toksOf, toksOfL, tk, textOf, textOfL, textOf_highlight, isBlank, tStr, tComment, tAffix, hd]

theorem tinv_singleLine (P) (isBytes : Bool) (q : Nat) (l : PS) : TInv P (singleLineStr isBytes q l) := by
  unfold singleLineStr
  cases isBytes <;>
    simp [TInv, TInvL, tk, tStr, tComment, tAffix, Plain, PlainL, plain_highlight]

theorem pieces_teq (isBytes : Bool) : ∀ (ls : List PS), ls ≠ [] →
    TEq (ls.flatMap (pieceToks isBytes)) (pieceToks isBytes ls.flatten)
  | [], h => absurd rfl h
  | [l], _ => by simp
  | l :: l2 :: r, _ => by
    have ih := pieces_teq isBytes (l2 :: r) (by simp)
    rw [List.flatMap_cons, List.flatten_cons]
    refine .trans (.app (.refl _) ih) ?_
    simp only [pieceToks, cps, List.map_append]
    cases isBytes
    · exact .symm (.split _ _)
    · exact .symm (.splitB _ _)

theorem paren_pieces (isBytes : Bool) (ls : List PS) (h2 : 2 ≤ ls.length) :
    TEq (.code [40] :: ls.flatMap (pieceToks isBytes) ++ [.code [41]]) (ls.flatMap (pieceToks isBytes)) := by
  have hl : ∀ l, (pieceToks isBytes l).filter isLit = [.lit (some (cps l))] := fun l => by cases isBytes <;> rfl
  have ha : ∀ l, (pieceToks isBytes l).all isLitOrB = true := fun l => by cases isBytes <;> rfl
  refine .paren _ ?_ ?_
  · rwa [List.filter_flatMap, funext hl, ← List.map_eq_flatMap, List.length_map]
  · simp only [List.all_flatMap, ha, List.all_eq_true, implies_true]

theorem toksOfL_intersperse {x : Doc} (hx : toksOf x = []) : ∀ ds, toksOfL (intersperse x ds) = toksOfL ds
  | [] | [_] => rfl
  | a :: b :: r => by simp only [intersperse, toksOfL, hx, List.nil_append, toksOfL_intersperse hx (b :: r)]

theorem tinvL_intersperse (P) {x : Doc} (hx : TInv P x) : ∀ ds, TInvL P (intersperse x ds) ↔ TInvL P ds
  | [] | [_] => .rfl
  | a :: b :: r => by simp only [intersperse, TInvL, hx, true_and, tinvL_intersperse P hx (b :: r)]

theorem toksOfL_pieces (sp : StrSpec) (ls : List PS) (hw : ∀ l ∈ ls, wfStr sp.isBytes l) :
    toksOfL (pieces sp ls) = ls.flatMap (pieceToks sp.isBytes) := by
  rw [pieces, toksOfL_intersperse rfl, toksOfL_eq_flatMap, List.flatMap_map, List.flatMap_def, List.flatMap_def]
  exact congrArg _ (List.map_congr_left fun l hl => toksOf_singleLine _ _ (determineQuote_is_quote _) l (hw l hl))

theorem tinvL_pieces (P) (sp : StrSpec) (ls : List PS) : TInvL P (pieces sp ls) := by
  rw [pieces, tinvL_intersperse P (x := .hardline) trivial, tinvL_iff]
  exact List.forall_mem_map.mpr fun _ _ => tinv_singleLine P _ _ _

theorem pieces_tokens (sp : StrSpec) (hw : wfStr sp.isBytes sp.s) {ls : List PS} (h : Cut sp.s ls) (parens : Bool) :
    TEq ((if parens then [LP] else []) ++ toksOfL (pieces sp ls) ++ if parens then [RP] else []) (pieceToks sp.isBytes sp.s) := by
  have h1 := h.join ▸ pieces_teq sp.isBytes ls (by rintro rfl; exact absurd h.two (by decide))
  rw [toksOfL_pieces sp ls fun l hl c hc => hw c (h.join ▸ List.mem_flatten.mpr ⟨l, hl, hc⟩)]
  cases parens
  · simpa using h1
  · exact .trans (paren_pieces sp.isBytes ls h.two) h1

theorem wrapCls_tokens (P) (sp : StrSpec) (d : Doc) (h : TInv P d ∧ TEq (toksOf d) (pieceToks sp.isBytes sp.s)) :
    TInv P (wrapCls sp d) ∧ TEq (toksOf (wrapCls sp d)) (strCanon sp) := by
  rw [strCanon_eq]
  unfold wrapCls wrapToks
  cases sp.cls with
  | none => exact h
  | some cn => simpa [TInvL, h.1, callToks, seqToks, pieceToks] using TEq.app (.app (.refl (cd cn.2 ++ [LP])) h.2) (.refl [RP])

theorem evalStr_tokens (sp : StrSpec) (hw : wfStr sp.isBytes sp.s) (i c w rw : Int) :
    TInv (fun _ => False) (evalStr sp i c w rw) ∧ TEq (toksOf (evalStr sp i c w rw)) (strCanon sp) := by
  obtain ⟨body, hb, e⟩ := evalStr_shape sp i c w rw
  rw [e]
  refine wrapCls_tokens _ sp body ⟨?_, ?_⟩
  · cases hb <;> simp [TInv, TInvL, tinvL_pieces, tinv_singleLine, apply_ite (TInv _)]
  · cases hb with
    | flat => exact toksOf_singleLine _ _ (determineQuote_is_quote _) _ hw ▸ .refl _
    | plain ls h | hang ls h => simpa [toksOf] using pieces_tokens sp hw h false
    | block ls parens h => simpa [toksOf, toksOfL, apply_ite toksOf, isBlank] using pieces_tokens sp hw h parens

end Tok
end PP
