/-
What C05 and C06 use of the fitting predicates: on classic stacks the fast predicate is `fitsE` (Spec/FitSpec.lean) on the stack
with indentation and annotation pops *erased*; `fitsE` is monotone in the modes and holds exactly when the width `scanE`
measures is within the budget; the smart predicate implies the fast one.
`fun_induction` numbers its cases in the order of the clauses of the function: for `fitsE` 1 budget used up, 2 empty stack, then
`nil`, `text`, `cat`, `ann`, `fill`, `nest`, `ab`, `hardline`, `choice`, `group`, `align`, `pstr`; `fitsFast`, `fitsSmart` and `demands` have
`pop` in front of `nil`, the last two two cases for `hardline` (indented more than `mn` or not), `demands` no case 1.
-/
import PP.Model.Layout
import PP.Spec.Classic
import PP.Spec.FitSpec
namespace PP
open Doc

theorem fitsE_nonneg {left stk} (h : fitsE left stk = true) : ¬ left < 0 := by
  intro hl; rw [fitsE.eq_def, if_pos hl] at h; cases h

section unfold
variable {left : Int} (h0 : 0 ≤ left) {m : Mode} {r : List Pair}
include h0
/-- the document `align(d)` evaluates to — `Nest(column - indent, d).normalize()` — is read by the erased predicate as
the normalised `d`, whatever the column and the indentation are -/
theorem fitsE_alignAt {k d} : fitsE left ((m, alignAt k d) :: r) = fitsE left ((m, d.normalize) :: r) := by
  have hl := Int.not_lt.mpr h0
  simp only [alignAt, Doc.normalize]
  split
  · rename_i hab
    rw [Doc.eq_ab_of_isAb hab]
    simp only [fitsE, hl, if_false]
  · simp only [fitsE, hl, if_false]
end unfold

@[simp] theorem strip_pushAll (i m ds r) : strip (pushAll i m ds r) = pushAllP m ds (strip r) := by
  induction ds with
  | nil => rfl
  | cons d ds ih => simp [pushAll, pushAllP, ih]

theorem forall_mem_pushAll {P : Item → Prop} {i m ds r} :
    (∀ t ∈ pushAll i m ds r, P t.2.2) ↔ (∀ d ∈ ds, P (.doc d)) ∧ ∀ t ∈ r, P t.2.2 := by
  induction ds with
  | nil => exact (and_iff_right nofun).symm
  | cons d ds ih => simp only [pushAll, List.forall_mem_cons, ih, and_assoc]
@[simp] theorem allClassic_pushAll {i m ds r} :
    AllClassic (pushAll i m ds r) ↔ (∀ d ∈ ds, Classic d) ∧ AllClassic r := forall_mem_pushAll
/-- `P`: classic, with or without `align` -/
theorem forall_mem_top {P : Item → Prop} {i i' m m' d d'} {r : List Triple} (h : ∀ t ∈ (i, m, .doc d) :: r, P t.2.2)
    (hd : P (.doc d) → P (.doc d')) : ∀ t ∈ (i', m', .doc d') :: r, P t.2.2 :=
  List.forall_mem_cons.mpr ⟨hd (List.forall_mem_cons.mp h).1, (List.forall_mem_cons.mp h).2⟩

theorem classic_pick {m l b f} (h : Classic (.choice l b f)) : Classic (pick m l b f) := by
  cases h <;> cases m <;> cases l <;> simp [pick, Doc.normalize]

theorem Classic.unAb {n : Doc} (h : Classic n) : Classic n.unAb := by
  cases n <;> simp_all [Doc.unAb]
theorem Classic.wrapAb {p : Bool} {n : Doc} (h : Classic n) : Classic (Doc.wrapAb p n) := by
  cases p <;> simpa [Doc.wrapAb] using h

theorem classic_catStep {n : Doc} {acc : List Doc × Bool} (hn : Classic n) (ha : ∀ x ∈ acc.1, Classic x) :
    ∀ x ∈ (Doc.catStep n acc).1, Classic x := by
  cases n <;> simp only [Doc.catStep, List.forall_mem_append, List.forall_mem_singleton]
  case nil => exact ha
  case cat => exact ⟨ha, Classic.cat_iff.mp hn⟩
  case ab => exact ⟨ha, Classic.ab_iff.mp hn⟩
  all_goals exact ⟨ha, hn⟩

theorem classic_normCat_of {ds : List Doc} (ih : ∀ d ∈ ds, Classic d.normalize) (acc : List Doc × Bool)
    (ha : ∀ x ∈ acc.1, Classic x) : ∀ x ∈ (Doc.normCat ds acc).1, Classic x := by
  induction ds generalizing acc with
  | nil => simpa only [Doc.normCat] using ha
  | cons d ds ihds =>
    simp only [Doc.normCat]
    exact ihds (fun x hx => ih x (by simp [hx])) _ (classic_catStep (ih d (by simp)) ha)

theorem classic_normalize : (d : Doc) → Classic d → Classic d.normalize := by
  intro d h
  induction h with
  | nil | hardline => simp [Doc.normalize]
  | text => simp only [Doc.normalize]; split <;> simp
  | line | softline => simp only [Doc.normalize]; constructor
  | align h => simpa only [Doc.normalize, Classic.align_iff] using h
  | ann _ ih => simpa [Doc.normalize] using ih
  | ab _ ih => simp only [Doc.normalize]; split <;> simpa
  | nest _ ih => simp only [Doc.normalize]; split <;> simp [ih, ih.unAb]
  | group _ ih =>
    simp only [Doc.normalize]; split
    · exact ih
    · split <;> simp [ih]
  | cat _ ih =>
    have := classic_normCat_of ih ([], false) (by simp)
    simp only [Doc.normalize]
    split
    · exact .nil
    · rename_i x hx; exact (this x (by simp [hx])).wrapAb
    · exact Classic.wrapAb (.cat this)

theorem classic_normCat : (ds : List Doc) → (acc : List Doc × Bool) → (∀ d ∈ ds, Classic d) → (∀ x ∈ acc.1, Classic x) →
    ∀ x ∈ (Doc.normCat ds acc).1, Classic x :=
  fun _ acc h => classic_normCat_of (fun d hd => classic_normalize d (h d hd)) acc

theorem classic_alignAt {k : Int} {d : Doc} (h : Classic (.align d)) : Classic (alignAt k d) :=
  classic_normalize _ (.nest (Classic.align_iff.mp h))

/-- on classic stacks the fast predicate never looks at indentation, nest amounts or annotation pops -/
theorem fitsFast_eq_fitsE (cfg : Cfg) (mw left : Int) (stk : List Triple) (hc : AllClassic stk) :
    fitsFast cfg mw left stk = fitsE left (strip stk) := by
  fun_induction fitsFast cfg mw left stk
  case case1 hl => rw [fitsE.eq_def, if_pos hl]
  case case2 | case10 | case11 => simp [fitsE, *]    -- nothing left, `always_break`, hardline: both answer at once
  case case8 | case15 => simp at hc                  -- `fill`, a string: not classic
  case case12 ih => simpa [fitsE, *] using ih (forall_mem_top hc classic_pick)
  case case14 hl _ _ _ _ ih =>
    -- `align`: what `fitsFast` reads depends on the column it has in mind, but not as far as `fitsE` looks at it
    simpa [fitsE, hl, fitsE_alignAt (Int.not_lt.mp hl)] using ih (forall_mem_top hc classic_alignAt)
  -- every other item: `fitsE` takes on the stripped stack the step `fitsFast` has taken, and what is left is classic
  all_goals
    rename_i ih
    simpa [fitsE, *] using ih (by simpa using hc)

theorem smart_imp_fast (cfg : Cfg) (mn mw left : Int) (stk : List Triple)
    (h : fitsSmart cfg mn mw left stk = true) : fitsFast cfg mw left stk = true := by
  fun_induction fitsSmart cfg mn mw left stk
  case case1 | case10 => simp at h    -- no budget left, `always_break`: the smart predicate is false
  -- `fitsFast` takes the same step, except at a line break, where it accepts at once
  all_goals unfold fitsFast; simp only [*, if_false]

theorem fits_imp_fitsE {cfg : Cfg} {mn mw : Int} {stk : List Triple} (hc : AllClassic stk)
    (h : fits cfg mn mw stk = true) : fitsE mw (strip stk) = true := by
  rw [← fitsFast_eq_fitsE cfg mw mw stk hc]
  cases hs : cfg.smart with
  | true => exact smart_imp_fast cfg mn mw mw stk (fits_smart hs .. ▸ h)
  | false => exact fits_fast hs .. ▸ h

/-- `Mode.le m' m`: `m'` is at least as broken as `m` (`brk` below `flat`) -/
def Mode.le : Mode → Mode → Prop
  | .brk, _ => True
  | .flat, .flat => True
  | .flat, .brk => False
theorem Mode.le_refl (m : Mode) : Mode.le m m := by cases m <;> simp [Mode.le]
theorem Mode.le_flat (m : Mode) : Mode.le m .flat := by cases m <;> simp [Mode.le]

/-- same documents, pointwise more-broken modes -/
inductive RelP : List Pair → List Pair → Prop
  | nil : RelP [] []
  | cons : Mode.le m' m → Classic d → RelP r' r → RelP ((m', d) :: r') ((m, d) :: r)

theorem RelP.pushAllP {m m' ds r r'} (hm : Mode.le m' m) (hc : ∀ d ∈ ds, Classic d) (hr : RelP r' r) :
    RelP (pushAllP m' ds r') (pushAllP m ds r) := by
  induction ds with
  | nil => exact hr
  | cons d ds ih => exact .cons hm (hc d (by simp)) (ih (fun x hx => hc x (by simp [hx])))

theorem RelP.refl_strip : ∀ {stk : List Triple}, AllClassic stk → RelP (strip stk) (strip stk)
  | [], _ => .nil
  | (_, m, .doc _) :: _, h => .cons (Mode.le_refl m) (allClassic_doc.mp h).1 (RelP.refl_strip (allClassic_doc.mp h).2)
  | (_, _, .pop _) :: r, h => RelP.refl_strip (stk := r) (allClassic_pop.mp h)

theorem fitsE_mono (left : Int) (stk stk' : List Pair) (hrel : RelP stk' stk)
    (h : fitsE left stk = true) : fitsE left stk' = true := by
  -- `stk'` has the same document on top as `stk` (`rcases hrel`, done in every case before anything else); where `fitsE`
  -- takes the same step on both, what is to be shown is that the two stacks it goes on with are related again
  fun_induction fitsE left stk generalizing stk' with (rcases hrel with _ | @⟨m', _, _, _, _, hm, hc, hr⟩)
  | case1 | case9 | case14 => simp at h                  -- no budget left, `always_break`, a string: `stk` does not fit
  | case2 left hl | case10 left hl => simp [fitsE, hl]   -- nothing left, hardline: accepted whatever the modes
  | case7 => simp at hc                                  -- `fill`: not classic
  | case3 left hl m r ih | case4 left hl m r s ih => simpa [fitsE, hl] using ih _ hr h
  | case5 left hl m r ds ih => simpa [fitsE, hl] using ih _ (.pushAllP hm (by simpa using hc) hr) h
  | case6 left hl m r a d ih | case8 left hl m r j d ih =>
    simpa [fitsE, hl] using ih _ (.cons hm (by simpa using hc) hr) h
  | case12 left hl m r d ih => simpa [fitsE, hl] using ih _ (.cons (Mode.le_flat _) (by simpa using hc) hr) h
  | case13 left hl m r d ih => simpa [fitsE, hl] using ih _ (.cons hm (classic_normalize d (by simpa using hc)) hr) h
  | case11 left hl m r l b f ih =>
    -- `line` / `softline`, the one document that is read differently in the two modes: broken it is a hardline, where the
    -- predicate stops and accepts
    cases m' with
    | brk => cases hc <;> cases l <;> simp [fitsE, hl, pick, Doc.normalize]
    | flat =>
      cases m with
      | brk => exact absurd hm (by simp [Mode.le])
      | flat => simpa [fitsE, hl] using ih _ (.cons hm (classic_pick hc) hr) h

theorem fitsE_iff_scan (left : Int) (stk : List Pair) :
    fitsE left stk = true ↔ 0 ≤ left ∧ ∃ n, scanE stk = some n ∧ (n : Int) ≤ left := by
  fun_induction fitsE left stk
  case case1 => exact ⟨nofun, fun h => absurd h.1 (by omega)⟩
  case case2 | case10 =>    -- nothing left, hardline: the line ends here, with width 0
    exact ⟨fun _ => ⟨by omega, 0, by simp only [scanE], by omega⟩, fun _ => rfl⟩
  case case9 | case14 => simp [scanE]                   -- `always_break`, a string: a forced break, no width
  case case4 left hl m r s ih =>
    -- a text of length `k` shifts both the budget and the width by `k`
    rw [scanE, ih]
    cases scanE r <;> simp
    omega
  -- every other document: `scanE` takes the step `fitsE` has taken
  all_goals rename_i ih; unfold scanE; exact ih

end PP
