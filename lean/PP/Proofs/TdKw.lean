/-
The keyword arguments of `pretty_timedelta`, taken apart once: `tdKw` is the list the printer hands to `build_fncall`
(`timedeltaDoc_eq`), and `C07.tdKw_eq` says what is in it — the `days` argument, shown as `y * 365 + r` (`C07.daysDoc`),
then one integer for each of the other attributes that is not zero.
-/
import PP.Model.Values
namespace PP
namespace Tok
open Doc PyStr Pr

theorem intDoc_depth (ctx ctx' : Ctx) (h : ctx.depthLeft = ctx'.depthLeft) (n : Int) : intDoc ctx n = intDoc ctx' n := by
  simp [intDoc, Ctx.depthZero, h]

/-- the keyword documents of pretty_timedelta -/
def tdKw (ctx : Ctx) (d s u : Int) : List (Str × Doc) :=
  let (_, days, hours, minutes, seconds, ms, us) := timedeltaParts d s u
  let nctx := ctx.nested
  let attrs : List (Str × Int) := [(str_ "days", days), (str_ "hours", hours), (str_ "minutes", minutes),
    (str_ "seconds", seconds), (str_ "milliseconds", ms), (str_ "microseconds", us)]
  let kw : List (Str × Doc) := (attrs.filter fun (_, v) => v != 0).map fun (k, v) => (k, intDoc nctx v)
  match kw with
    | (k, dd) :: rest =>
      if days != 0 then
        let years := days / 365
        let rem := days % 365
        if years != 0 then
          let pre := if years > 1 then [intDoc ctx years, Doc.text [32], MUL_OP, .text [32]] else []
          let post := if rem != 0 then [Doc.text [32], ADD_OP, .text [32], intDoc ctx rem] else []
          (k, Doc.cat (pre ++ [intDoc ctx 365] ++ post)) :: rest
        else (k, dd) :: rest
      else (k, dd) :: rest
    | [] => []

theorem timedeltaDoc_eq (ctx : Ctx) (d s u : Int) :
    timedeltaDoc ctx d s u =
      if ctx.depthZero then ellipsisCall nmTimedelta
      else
        let doc := Doc.group (buildFncall ctx.indent (generalIdentifier nmTimedelta) [] (tdKw ctx d s u) false none)
        if (timedeltaParts d s u).1 then .cat [NEG_OP, doc] else doc := by
  unfold timedeltaDoc tdKw
  rfl

theorem tdKw_depth (ctx ctx' : Ctx) (h : ctx.depthLeft = ctx'.depthLeft) (d s u : Int) : tdKw ctx d s u = tdKw ctx' d s u := by
  have h1 : ∀ n, intDoc ctx n = intDoc ctx' n := intDoc_depth ctx ctx' h
  have h2 : ∀ n, intDoc ctx.nested n = intDoc ctx'.nested n := intDoc_depth _ _ (by simp [Ctx.nested, h])
  unfold tdKw
  simp only [h1, h2]

end Tok

namespace C07
open Doc Pr Tok

/-- `pretty_timedelta` shows the attributes that are not zero -/
def nz : Str × Int → Bool := fun (_, v) => v != 0

/-- the document shown for `days` -/
def daysDoc (ctx : Ctx) (days : Int) : Doc :=
  if days / 365 != 0 then
    Doc.cat ((if days / 365 > 1 then [intDoc ctx (days / 365), Doc.text [32], MUL_OP, .text [32]] else []) ++ [intDoc ctx 365] ++
      (if days % 365 != 0 then [Doc.text [32], ADD_OP, .text [32], intDoc ctx (days % 365)] else []))
  else intDoc ctx.nested days

/-- the attributes after `days`, in the order `pretty_timedelta` lists them -/
def restAttrs (hours minutes seconds ms us : Int) : List (Str × Int) :=
  [(str_ "hours", hours), (str_ "minutes", minutes), (str_ "seconds", seconds), (str_ "milliseconds", ms), (str_ "microseconds", us)]

theorem tdKw_eq (ctx : Ctx) (d s u : Int) :
    let p := timedeltaParts d s u
    tdKw ctx d s u = (if p.2.1 != 0 then [(str_ "days", daysDoc ctx p.2.1)] else []) ++
      ((restAttrs p.2.2.1 p.2.2.2.1 p.2.2.2.2.1 p.2.2.2.2.2.1 p.2.2.2.2.2.2).filter nz).map fun (k, v) => (k, intDoc ctx.nested v) := by
  show _ = (if ((timedeltaParts d s u).2.1 != 0) = true then _ else _) ++ _
  unfold tdKw
  simp only []
  rw [List.filter_cons]
  -- the printer patches the head of the filtered list, and that head is the `days` entry exactly when `days ≠ 0`
  by_cases h : ((timedeltaParts d s u).2.1 != 0) = true
  · simp only [h, if_true, List.map_cons, daysDoc, List.cons_append, List.nil_append]
    split <;> rfl
  · simp only [h, Bool.false_eq_true, if_false, List.nil_append]
    split <;> (rename_i heq; exact heq.symm)

end C07
end PP
