/-
C12: the document built for a comment is linear in the comment text.
-/
import PP.Proofs.SizeBasic
import PP.Proofs.StrLines
namespace PP
namespace Pr
open Doc PyStr

theorem filter_nonempty_le : ∀ (ps : List Part), (ps.filter fun p => !p.1.isEmpty).length ≤ (partsJoin ps).length
  | [] => Nat.le_refl 0
  | (p, b) :: r => by
    have ih := filter_nonempty_le r
    simp only [List.filter_cons, partsJoin]
    cases hp : p with
    | nil => simp [ih]
    | cons c t => simp only [List.isEmpty_cons, Bool.not_false, if_true, List.length_cons, List.length_append]; omega

theorem sizesF_commentItems : ∀ (parts : List Part) (b : Bool), sizesF (commentItems parts b) ≤ 6 * parts.length
  | [], _ => Nat.le_refl 0
  | (p, s) :: r, b => by
    have ih := sizesF_commentItems r (!b)
    simp only [commentItems, sizesF, List.length_cons]
    cases b
    · simp only [Bool.not_false] at ih; simp [size]; omega
    · simp only [Bool.not_true] at ih; simp [commentSep, size, sizes]; omega

/-- dropping a last separator loses words, it adds none -/
theorem sizesF_commentItems_trim (ps : List Part) {n : Nat} (h : ps.length ≤ n) :
    sizesF (commentItems (if ps.length % 2 == 0 then ps.dropLast else ps) false) ≤ 6 * n := by
  refine Nat.le_trans (sizesF_commentItems _ _) (Nat.mul_le_mul_left 6 (Nat.le_trans ?_ h))
  split <;> simp

/-- at most one word and one separator per character of the line, whether or not it starts with white space -/
theorem rsize_commentLine (line : PS) : rsize (commentLine line) ≤ 6 * line.length + 6 := by
  unfold commentLine
  have hc := filter_nonempty_le (splitParts (·.space) line)
  rw [splitParts_join] at hc
  generalize (splitParts (·.space) line).filter (fun p => !p.1.isEmpty) = parts at hc
  match parts, hc with
  | [], _ => exact Nat.le_add_left 1 _
  | (p, true) :: rest, hc => simpa +arith only [if_true, rsize, rsizes] using sizesF_commentItems_trim rest (Nat.le_of_succ_le hc)
  | (p, false) :: rest, hc => simpa +arith only [Bool.false_eq_true, if_false, rsize, rsizes] using sizesF_commentItems_trim _ hc

theorem splitLinesAux_length (s cur : PS) :
    (splitLinesAux s cur).flatten.length + (splitLinesAux s cur).length ≤ s.length + cur.length + 1 := by
  fun_induction splitLinesAux s cur
  all_goals simp only [List.flatten_cons, List.flatten_nil, List.length_append, List.length_cons, List.length_reverse,
    List.length_nil] at * <;> omega

/-- bound on the document of a comment: a line costs 6 per character (a word and its separator) + 6 and the `hardline` before
it, a line break costs the text one character (`splitLinesAux_length`): less than 9 per character + 9 in all; 13 is that 9 and
the `cat`, `always_break` and annotation around the lines -/
def cw (t : PS) : Nat := 9 * t.length + 13

theorem rsize_commentdoc (t : PS) : rsize (commentdoc t) ≤ cw t := by
  have h1 := rsizes_intersperse_map commentLine .hardline (fun l => 6 * l.length + 7)
    (fun l => Nat.succ_le_succ (rsize_commentLine l)) (splitLinesAux t [])
  have h2 : _ ≤ t.length + 1 := splitLinesAux_length t []
  rw [sumBy_flatten] at h1
  unfold commentdoc splitLines cw
  generalize splitLinesAux t [] = ls at h1 h2 ⊢
  simp only []
  split <;> simp only [rsize] <;> omega

end Pr
end PP
