/-
The executable matcher `checkLay` (the oracle used on implementation outputs) against the reference semantics.
Both directions read the matcher through its rules: membership in `matchDoc`, constructor by constructor, in the
form of the rule of `Lay` for that constructor.
-/
import PP.Spec.CheckLay
import PP.Proofs.LayInd
namespace PP
open Doc

variable {E : StrSpec → Doc → Prop}

theorem mem_dedup {x : MState} {xs : List MState} : x ∈ dedup xs ↔ x ∈ xs := List.mem_eraseDups

theorem mem_modesOr {m m' : Mode} {f : Bool} : m' ∈ modesOr m f ↔ m.orBrk f m' := by
  cases f <;> cases m <;> simp [modesOr, Mode.orBrk]

section rules
variable {strict : Bool} {i : Int} {m : Mode} {x st : MState} {out r : List SDoc} {c c' : Int}

theorem mem_dedup_flatMap {α} {f : α → List MState} {xs : List α} : x ∈ dedup (xs.flatMap f) ↔ ∃ a ∈ xs, x ∈ f a := by
  rw [mem_dedup, List.mem_flatMap]

theorem mem_matchDoc_cat {ds} : x ∈ matchDoc strict (.cat ds) i m st ↔
    ∃ m', m.orBrk (forces (.cat ds)) m' ∧ x ∈ matchList strict ds i m' [st] := by
  simp only [matchDoc, mem_dedup_flatMap, mem_modesOr, forces]

theorem mem_matchDoc_nest {j d} : x ∈ matchDoc strict (.nest j d) i m st ↔
    ∃ m', m.orBrk (forces (.nest j d)) m' ∧ x ∈ matchDoc strict d (i + j) m' st := by
  simp only [matchDoc, mem_dedup_flatMap, mem_modesOr, forces]

theorem matchDoc_align {d} : matchDoc strict (.align d) i m (out, c) = matchDoc strict (.nest (c - i) d) i m (out, c) := by
  simp only [matchDoc]

theorem mem_bothModes {d} : x ∈ matchDoc strict d i .flat st ++ matchDoc strict d i .brk st ↔
    ∃ m', x ∈ matchDoc strict d i m' st := by
  rw [List.mem_append]
  exact ⟨fun h => h.elim (⟨_, ·⟩) (⟨_, ·⟩), fun ⟨m', h⟩ => by cases m'; exact .inr h; exact .inl h⟩

theorem mem_matchDoc_group {d} : x ∈ matchDoc strict (.group d) i m st ↔
    ∃ m', ((strict && forcesH d) = true → m' = .brk) ∧ x ∈ matchDoc strict d i m' st := by
  cases h : strict && forcesH d <;> simp [matchDoc, h, mem_dedup, mem_bothModes, - List.mem_append]

theorem mem_matchDoc_ann {a d} : (r, c') ∈ matchDoc strict (.ann a d) i m (out, c) ↔
    ∃ rest, out = .push a :: rest ∧ (.pop a :: r, c') ∈ matchDoc strict d i m (rest, c) := by
  simp only [matchDoc]
  split
  · rename_i b rest
    by_cases hab : a = b
    · subst hab
      simp only [if_true, List.mem_filterMap, Prod.exists, List.cons.injEq, true_and, exists_eq_left']
      constructor
      · rintro ⟨o, c1, hmem, hsel⟩
        split at hsel
        · split at hsel
          · rename_i h
            obtain ⟨rfl, rfl⟩ : _ = r ∧ c1 = c' := by simpa using hsel
            exact h ▸ hmem
          · cases hsel
        · cases hsel
      · exact fun h => ⟨_, _, h, by simp⟩
    · simp [hab, eq_comm]
  · rename_i h; simp; intro rest hr; exact (h _ _ hr).elim

end rules

mutual
theorem matchDoc_sound (strict : Bool) {i : Int} {m : Mode} {out r : List SDoc} {c c' : Int} : (d : Doc) →
    (r, c') ∈ matchDoc strict d i m (out, c) → ∃ o, out = o ++ r ∧ Lay E d i m c o c'
  | .nil, h => by
      obtain ⟨rfl, rfl⟩ : r = out ∧ c' = c := by simpa [matchDoc] using h
      exact ⟨[], rfl, .nil⟩
  | .text s, h => by
      simp only [matchDoc] at h
      split at h <;> simp only [List.mem_append, List.mem_ite_nil_right, List.mem_singleton, Prod.mk.injEq] at h
      · rcases h with ⟨rfl, rfl, rfl⟩ | ⟨rfl, rfl, rfl⟩
        · exact ⟨[.text _], rfl, .text⟩
        · exact ⟨[], rfl, .textE⟩
      · obtain ⟨rfl, rfl, rfl⟩ := h
        exact ⟨[], rfl, .textE⟩
  | .hardline, h => by
      simp only [matchDoc] at h
      split at h <;> simp only [List.mem_ite_nil_right, List.mem_singleton, Prod.mk.injEq, List.not_mem_nil] at h
      obtain ⟨rfl, rfl, rfl⟩ := h
      exact ⟨[.line _], rfl, .hardline⟩
  | .cat ds, h => by
      obtain ⟨m', hm, h⟩ := mem_matchDoc_cat.mp h
      obtain ⟨st, hst, o, ho, hl⟩ := matchList_sound strict ds _ _ _ _ _ h
      cases List.mem_singleton.mp hst
      exact ⟨o, ho, .cat m' hm hl⟩
  | .nest j d, h => by
      obtain ⟨m', hm, h⟩ := mem_matchDoc_nest.mp h
      obtain ⟨o, ho, hl⟩ := matchDoc_sound strict d h
      exact ⟨o, ho, .nest m' hm hl⟩
  | .group d, h => by
      obtain ⟨m', -, h⟩ := mem_matchDoc_group.mp h
      obtain ⟨o, ho, hl⟩ := matchDoc_sound strict d h
      exact ⟨o, ho, .group m' hl⟩
  | .choice l b f, h => by
      cases m
      · obtain ⟨o, ho, hl⟩ := matchDoc_sound strict b (by simpa [matchDoc] using h)
        exact ⟨o, ho, .choiceB hl⟩
      · obtain ⟨o, ho, hl⟩ := matchDoc_sound strict f (by simpa [matchDoc] using h)
        exact ⟨o, ho, .choiceF hl⟩
  | .ab d, h => by
      obtain ⟨o, ho, hl⟩ := matchDoc_sound strict d (by simpa only [matchDoc] using h)
      exact ⟨o, ho, .ab hl⟩
  | .fill ds, h => by
      obtain ⟨st, hst, o, ho, hl⟩ := matchFill_sound strict ds _ _ _ _ (by simpa only [matchDoc] using h)
      cases List.mem_singleton.mp hst
      exact ⟨o, ho, .fill hl⟩
  | .ann a d, h => by
      obtain ⟨rest, rfl, hd⟩ := mem_matchDoc_ann.mp h
      obtain ⟨o, rfl, hl⟩ := matchDoc_sound strict d hd
      exact ⟨.push a :: o ++ [.pop a], by simp, .ann hl⟩
  | .align d, h => by
      obtain ⟨m', hm, h⟩ := mem_matchDoc_nest.mp (matchDoc_align ▸ h)
      obtain ⟨o, ho, hl⟩ := matchDoc_sound strict d h
      exact ⟨o, ho, .align (.nest m' hm hl)⟩
  | .pstr sp, h => by simp [matchDoc] at h

theorem matchList_sound (strict : Bool) : ∀ (ds : List Doc) (i : Int) (m : Mode) (sts : List MState) (r : List SDoc) (c' : Int),
    (r, c') ∈ matchList strict ds i m sts → ∃ st ∈ sts, ∃ o, st.1 = o ++ r ∧ LayL E ds i m st.2 o c'
  | [], i, m, sts, r, c', h => ⟨(r, c'), by simpa only [matchList] using h, [], rfl, .nil⟩
  | d :: ds, i, m, sts, r, c', h => by
      simp only [matchList] at h
      obtain ⟨⟨o1, c1⟩, hst1, o2, ho2, hl2⟩ := matchList_sound strict ds i m _ r c' h
      obtain ⟨⟨out, c⟩, hst, hmem⟩ := mem_dedup_flatMap.mp hst1
      obtain ⟨o, ho, hl⟩ := matchDoc_sound strict d hmem
      exact ⟨(out, c), hst, o ++ o2, by rw [ho, show o1 = _ from ho2, List.append_assoc], .cons hl hl2⟩

theorem matchFill_sound (strict : Bool) : ∀ (ds : List Doc) (i : Int) (sts : List MState) (r : List SDoc) (c' : Int),
    (r, c') ∈ matchFill strict ds i sts → ∃ st ∈ sts, ∃ o, st.1 = o ++ r ∧ LayF E ds i st.2 o c'
  | [], i, sts, r, c', h => ⟨(r, c'), by simpa only [matchFill] using h, [], rfl, .nil⟩
  | d :: ds, i, sts, r, c', h => by
      simp only [matchFill] at h
      obtain ⟨⟨o1, c1⟩, hst1, o2, ho2, hl2⟩ := matchFill_sound strict ds i _ r c' h
      obtain ⟨⟨out, c⟩, hst, hmem⟩ := mem_dedup_flatMap.mp hst1
      obtain ⟨m', hmem⟩ := mem_bothModes.mp hmem
      obtain ⟨o, ho, hl⟩ := matchDoc_sound strict d hmem
      exact ⟨(out, c), hst, o ++ o2, by rw [ho, show o1 = _ from ho2, List.append_assoc], .cons m' hl hl2⟩
end

theorem checkLay_eq {strict d out} : checkLay strict d out = true ↔ ∃ c', ([], c') ∈ matchDoc strict d 0 .brk (out, 0) := by
  simp [checkLay, List.isEmpty_iff]

/-- **the oracle is sound**: an output accepted by `checkLay` (strict or not) is a rendering of the document in the
reference semantics, started at column 0 with indentation 0 in break mode — exactly the judgement of `C04.sound`. -/
theorem checkLay_sound (strict : Bool) (d : Doc) (out : List SDoc) (h : checkLay strict d out = true) :
    ∃ c', Lay E d 0 .brk 0 out c' := by
  obtain ⟨c', h⟩ := checkLay_eq.mp h
  obtain ⟨o, rfl, hl⟩ := matchDoc_sound (E := E) strict d h
  exact ⟨c', by simpa using hl⟩

namespace Doc
mutual
def noPstr : Doc → Bool
  | .pstr _ => false
  | .cat ds => noPstrL ds
  | .nest _ d => noPstr d
  | .group d => noPstr d
  | .choice _ b f => noPstr b && noPstr f
  | .ab d => noPstr d
  | .fill ds => noPstrL ds
  | .ann _ d => noPstr d
  | .align d => noPstr d
  | _ => true
def noPstrL : List Doc → Bool
  | [] => true
  | d :: ds => noPstr d && noPstrL ds
end
end Doc

theorem match_complete :
    (∀ {d i m c o c'}, Lay E d i m c o c' → noPstr d = true → ∀ r, (r, c') ∈ matchDoc false d i m (o ++ r, c)) ∧
    (∀ {ds i m c o c'}, LayL E ds i m c o c' → noPstrL ds = true →
      ∀ r (sts : List MState), (o ++ r, c) ∈ sts → (r, c') ∈ matchList false ds i m sts) ∧
    (∀ {ds i c o c'}, LayF E ds i c o c' → noPstrL ds = true →
      ∀ r (sts : List MState), (o ++ r, c) ∈ sts → (r, c') ∈ matchFill false ds i sts) :=
  Lay.induct
    (nil := fun _ r => by simp [matchDoc])
    (textE := fun _ r => by simp only [matchDoc, List.nil_append]; split <;> simp)
    (text := fun _ r => by simp [matchDoc])
    (hardline := fun _ r => by simp [matchDoc])
    (cat := fun m' hm _ ih hp r => mem_matchDoc_cat.mpr ⟨m', hm, ih hp r _ (by simp)⟩)
    (nest := fun m' hm _ ih hp r => mem_matchDoc_nest.mpr ⟨m', hm, ih hp r⟩)
    (group := fun m' _ ih hp r => mem_matchDoc_group.mpr ⟨m', nofun, ih hp r⟩)
    (choiceF := fun _ ih hp r => by
      simp only [noPstr, Bool.and_eq_true] at hp
      simpa [matchDoc] using ih hp.2 r)
    (choiceB := fun _ ih hp r => by
      simp only [noPstr, Bool.and_eq_true] at hp
      simpa [matchDoc] using ih hp.1 r)
    (ab := fun _ ih hp r => by simpa only [matchDoc] using ih hp r)
    (fill := fun _ ih hp r => by simpa only [matchDoc] using ih hp r _ (by simp))
    (ann := fun {_ _ _ _ _ _ a} _ ih hp r =>
      mem_matchDoc_ann.mpr ⟨_, rfl, by simpa using ih hp (.pop a :: r)⟩)
    (align := fun _ ih hp r => matchDoc_align ▸ ih hp r)
    (pstr := fun _ _ _ hp => by simp [noPstr] at hp)
    (lnil := fun _ r sts h => by simpa [matchList] using h)
    (lcons := fun {_ _ _ _ _ _ _ o2 _} _ _ ihd ihl hp r sts h => by
      simp only [noPstrL, Bool.and_eq_true] at hp
      exact ihl hp.2 r _ (mem_dedup_flatMap.mpr ⟨_, h, by simpa using ihd hp.1 (o2 ++ r)⟩))
    (fnil := fun _ r sts h => by simpa [matchFill] using h)
    (fcons := fun {_ _ _ _ _ _ o2 _} m' _ _ ihd ihl hp r sts h => by
      simp only [noPstrL, Bool.and_eq_true] at hp
      refine ihl hp.2 r _ (mem_dedup_flatMap.mpr ⟨_, h, mem_bothModes.mpr ⟨m', ?_⟩⟩)
      simpa using ihd hp.1 (o2 ++ r))

theorem matchList_complete : ∀ {ds i m c o c'}, LayL E ds i m c o c' → noPstrL ds = true →
    ∀ r (sts : List MState), (o ++ r, c) ∈ sts → (r, c') ∈ matchList false ds i m sts :=
  match_complete.2.1

theorem matchFill_complete : ∀ {ds i c o c'}, LayF E ds i c o c' → noPstrL ds = true →
    ∀ r (sts : List MState), (o ++ r, c) ∈ sts → (r, c') ∈ matchFill false ds i sts :=
  match_complete.2.2

/-- **the non-strict oracle raises no false alarm**: it accepts exactly the renderings in `Lay` of a document without
string contextuals. -/
theorem checkLay_iff (d : Doc) (out : List SDoc) (hp : noPstr d = true) :
    checkLay false d out = true ↔ ∃ c', Lay E d 0 .brk 0 out c' :=
  ⟨checkLay_sound false d out, fun ⟨c', h⟩ => checkLay_eq.mpr ⟨c', by simpa using match_complete.1 h hp []⟩⟩

end PP
