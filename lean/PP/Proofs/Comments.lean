/-
C09 at the level of code tokens: `comment()` annotations are exactly token-inert.
`dropComments v` removes every `comment()` wrapper (trailing comments stay: they add a comma before the closing bracket, `C09.trailing_adds_comma`).
-/
import PP.Spec.Comments
import PP.Proofs.ToksVal
import PP.Proofs.ValInd
namespace PP
namespace Tok
open Doc PyStr Pr

theorem dropL_of_commentFree {xs : List PyVal} (ih : ∀ x ∈ xs, commentFree x = true → dropComments x = x) :
    commentFreeL xs = true → dropL xs = xs := by
  rw [commentFreeL_iff, dropL_eq_map]; exact fun h => map_eq_self fun x hx => ih x hx (h x hx)

theorem drop_commentFree (v : PyVal) : commentFree v = true → dropComments v = v := by
  induction v using PyVal.induct with
  | commented | trailing => exact fun h => nomatch h
  | seq k c xs ih | frozenset c xs ih => exact fun h => congrArg _ (dropL_of_commentFree ih h)
  | dict c kvs ih =>
    rw [commentFree, commentFreeP_iff, dropComments, dropP_eq_map]
    exact fun h => congrArg _ (map_eq_self fun p hp => Prod.ext ((ih p hp).1 (h p hp).1) ((ih p hp).2 (h p hp).2))
  | call f a k iha ihk =>
    rw [commentFree, Bool.and_eq_true, commentFreeK_iff, dropComments, dropK_eq_map]
    exact fun h => congr (congrArg _ (dropL_of_commentFree iha h.1)) (map_eq_self fun p hp => Prod.ext rfl (ihk p hp (h.2 p hp)))
  | _ => exact fun _ => rfl

theorem dropL_commentFree {xs : List PyVal} : commentFreeL xs = true → dropL xs = xs :=
  dropL_of_commentFree fun x _ => drop_commentFree x

/-- dropping comments does not change what a value is under its wrappers, as far as hugging and key ordering look -/
theorem strip_drop : ∀ (v : PyVal), commentFree (stripComments v) = true → stripComments (dropComments v) = stripComments v := by
  intro v
  induction v using PyVal.induct with
  | commented v t ih | trailing v t ih => exact ih
  -- under the wrappers `stripComments` does nothing
  | _ => exact fun h => congrArg stripComments (drop_commentFree _ h)

theorem huggable_drop (v : PyVal) : isHuggable (stripComments (dropComments v)) = isHuggable (stripComments v) := by
  induction v using PyVal.induct with
  | commented v t ih | trailing v t ih => exact ih
  | seq k c xs => match k, c with
    | 0, none | 0, some _ | 1, none | 1, some _ | _ + 2, _ => rfl
  | dict c kvs => cases c <;> rfl
  | _ => rfl

theorem hugCall_drop : ∀ (args : List PyVal) (kwargs : List (Str × PyVal)), hugCall (dropL args) (dropK kwargs) = hugCall args kwargs
  | [a], [] => huggable_drop a
  | [], [] => rfl
  | [], _ :: _ => rfl
  | [_], (_, _) :: _ => rfl
  | _ :: _ :: _, [] => rfl
  | _ :: _ :: _, _ :: _ => rfl

theorem commentFree_keyOk (v : PyVal) : commentFree v = true → keyOk v = true := by
  induction v using PyVal.induct with
  | commented | trailing => exact fun h => nomatch h
  | seq kind c xs ih =>
    intro h
    rw [keyOk]
    split
    · exact (keyOkL_iff xs).mpr fun x hx => ih x hx ((commentFreeL_iff xs).mp h x hx)
    · exact h
  -- everywhere else the two functions have the same clause
  | _ => exact id

theorem commentFreeL_keyOkL : ∀ (xs : List PyVal), commentFreeL xs = true → keyOkL xs = true :=
  fun xs h => (keyOkL_iff xs).mpr fun x hx => commentFree_keyOk x ((commentFreeL_iff xs).mp h x hx)

theorem sortKeyL_dropL {xs : List PyVal} (ih : ∀ x ∈ xs, keyOk x = true → sortKey (dropComments x) = sortKey x) :
    keyOkL xs = true → sortKeyL (dropL xs) = sortKeyL xs := by
  rw [keyOkL_iff, sortKeyL_eq_map, sortKeyL_eq_map, dropL_eq_map, List.map_map]
  exact fun h => List.map_congr_left fun x hx => ih x hx (h x hx)

theorem sortKey_drop : ∀ (v : PyVal), keyOk v = true → sortKey (dropComments v) = sortKey v := by
  intro v
  induction v using PyVal.induct with
  | commented v t ih | trailing v t ih => exact ih
  | seq kind c xs ih =>
    intro h
    rw [keyOk] at h
    rw [dropComments, sortKey, sortKey]
    split
    · rw [if_pos ‹_›] at h; rw [sortKeyL_dropL ih h]
    · rw [if_neg ‹_›] at h; rw [dropL_commentFree h]
  -- everywhere else `keyOk` is `commentFree`
  | _ => exact fun h => congrArg sortKey (drop_commentFree _ h)

theorem sortKeyL_drop : ∀ (xs : List PyVal), keyOkL xs = true → sortKeyL (dropL xs) = sortKeyL xs :=
  fun _ => sortKeyL_dropL fun x _ => sortKey_drop x

theorem sortK_key {α} (g : PyVal → PyVal) (xs : List (PyVal × α)) (h : ∀ p ∈ xs, sortKey (g p.1) = sortKey p.1) :
    sortK (xs.map fun p => (g p.1, p.2)) = (sortK xs).map fun p => (g p.1, p.2) :=
  sortK_comm _ xs h

/-- `dictCanon` looks at the keys only to order the pairs, and orders them by `sortKey` -/
theorem dictCanon_keys (ctx : Ctx) (cls : Option QualName) (g : PyVal → PyVal) (ps : List (PyVal × List CT × List CT))
    (tr : Option PS) (h : ctx.sortKeys = true → ∀ p ∈ ps, sortKey (g p.1) = sortKey p.1) :
    dictCanon ctx cls (ps.map fun p => (g p.1, p.2)) tr = dictCanon ctx cls ps tr := by
  have hsort : takeOpt ctx.maxSeqLen (if ctx.sortKeys = true then sortK (ps.map fun p => (g p.1, p.2))
      else ps.map fun p => (g p.1, p.2)) =
      (takeOpt ctx.maxSeqLen (if ctx.sortKeys = true then sortK ps else ps)).map fun p => (g p.1, p.2) :=
    shownOrder_map _ h
  have hb : ∀ (qs : List (PyVal × List CT × List CT)), dictPairToks (qs.map fun p => (g p.1, p.2)) = dictPairToks qs :=
    fun qs => dictPairToks_congr _ _ (by simp [List.map_map, Function.comp_def])
  unfold dictCanon
  simp only [hsort, hb, List.length_map, List.isEmpty_map]

theorem commentFree_keysPlain : ∀ (v : PyVal), commentFree v = true → keysPlain v = true := by
  intro v
  induction v using PyVal.induct with
  | commented | trailing => exact fun h => nomatch h
  | seq _ _ xs ih | frozenset _ xs ih =>
    rw [commentFree, keysPlain, commentFreeL_iff, keysPlainL_iff]; exact fun h x hx => ih x hx (h x hx)
  | dict _ kvs ih =>
    rw [commentFree, keysPlain, commentFreeP_iff, keysPlainP_iff]
    exact fun h p hp => ⟨commentFree_keyOk _ (h p hp).1, (ih p hp).2 (h p hp).2⟩
  | call _ a k iha ihk =>
    rw [commentFree, keysPlain, Bool.and_eq_true, Bool.and_eq_true, commentFreeL_iff, keysPlainL_iff, commentFreeK_iff,
      keysPlainK_iff]
    exact fun h => ⟨fun x hx => iha x hx (h.1 x hx), fun p hp => ihk p hp (h.2 p hp)⟩
  | _ => exact fun _ => rfl

theorem keyOk_keysPlain (v : PyVal) : keyOk v = true → keysPlain v = true := by
  induction v using PyVal.induct with
  | commented v t ih | trailing v t ih => exact ih
  | seq kind c xs ih =>
    intro h
    rw [keyOk] at h
    split at h
    · exact (keysPlainL_iff xs).mpr fun x hx => ih x hx ((keyOkL_iff xs).mp h x hx)
    · exact commentFree_keysPlain (.seq kind c xs) h
  -- everywhere else `keyOk` is `commentFree`
  | _ => exact fun h => commentFree_keysPlain _ h

theorem keyOkL_keysPlainL : ∀ (xs : List PyVal), keyOkL xs = true → keysPlainL xs = true :=
  fun xs h => (keysPlainL_iff xs).mpr fun x hx => keyOk_keysPlain x ((keyOkL_iff xs).mp h x hx)

theorem keysPlain_strip : ∀ (v : PyVal), keysPlain v = keysPlain (stripComments v) := by
  intro v
  induction v using PyVal.induct with
  | commented v t ih | trailing v t ih => exact ih
  | _ => rfl

theorem dropL_length (xs : List PyVal) : (dropL xs).length = xs.length := by rw [dropL_eq_map, List.length_map]

theorem dropL_isEmpty (xs : List PyVal) : (dropL xs).isEmpty = xs.isEmpty := by rw [dropL_eq_map, List.isEmpty_map]

/-- the comments in `v` do not show in its tokens (what `comment_inert` proves of every `v`) -/
def Inert (v : PyVal) : Prop :=
  ∀ (ctx : Ctx) (tr : Option PS), ctx.depthLeft = none → (ctx.sortKeys = false ∨ keysPlain v = true) →
    canonW ctx v tr = canonW ctx (dropComments v) tr

theorem canonL_of_inert {xs : List PyVal} (ih : ∀ x ∈ xs, Inert x) (ctx : Ctx) (hd : ctx.depthLeft = none)
    (hk : ctx.sortKeys = false ∨ keysPlainL xs = true) : canonL ctx xs = canonL ctx (dropL xs) := by
  rw [canonL_eq_map, canonL_eq_map, dropL_eq_map, List.map_map]
  exact List.map_congr_left fun x hx => ih x hx ctx none hd (hk.imp_right fun h => (keysPlainL_iff xs).mp h x hx)

theorem canonKw_of_inert {kws : List (Str × PyVal)} (ih : ∀ p ∈ kws, Inert p.2) (ctx : Ctx) (hd : ctx.depthLeft = none)
    (hk : ctx.sortKeys = false ∨ keysPlainK kws = true) : canonKw ctx kws = canonKw ctx (dropK kws) := by
  rw [canonKw_eq_map, canonKw_eq_map, dropK_eq_map, List.map_map]
  exact List.map_congr_left fun p hp =>
    congrArg _ (ih p hp ctx none hd (hk.imp_right fun h => (keysPlainK_iff kws).mp h p hp))

/-- (no depth limit: a commented str key goes through pretty_python_value, which applies the depth test that bare str keys
skip — finding K5) -/
theorem canonPairs_of_inert {kvs : List (PyVal × PyVal)} (ih : ∀ p ∈ kvs, Inert p.1 ∧ Inert p.2) (ctx : Ctx)
    (hd : ctx.depthLeft = none) (hk : ctx.sortKeys = false ∨ keysPlainP kvs = true) :
    canonPairs ctx (dropP kvs) = (canonPairs ctx kvs).map (fun p => (dropComments p.1, p.2)) ∧
      (keysPlainP kvs = true → ∀ p ∈ canonPairs ctx kvs, sortKey (dropComments p.1) = sortKey p.1) := by
  have hz : ctx.nested.depthZero = false := (C11.unlimited_never_zero _ (nested_depthLeft hd)).1
  have hP := hk.imp_right (keysPlainP_iff kvs).mp
  rw [canonPairs_eq_map, canonPairs_eq_map, dropP_eq_map, List.map_map, List.map_map]
  refine ⟨List.map_congr_left fun p hp => ?_, fun h => List.forall_mem_map.mpr fun p hp => sortKey_drop p.1 ((keysPlainP_iff kvs).mp h p hp).1⟩
  have ik := (ih p hp).1 ctx.nested none (nested_depthLeft hd) (hP.imp_right fun h => keyOk_keysPlain p.1 (h p hp).1)
  have iv := (ih p hp).2 ctx.nested none (nested_depthLeft hd) (hP.imp_right fun h => (h p hp).2)
  simp only [Function.comp]; rw [keyCanon_above hz, keyCanon_above hz, ik, iv]

theorem comment_inert : (v : PyVal) → (ctx : Ctx) → (tr : Option PS) → ctx.depthLeft = none →
    (ctx.sortKeys = false ∨ keysPlain v = true) → canonW ctx v tr = canonW ctx (dropComments v) tr := by
  intro v
  induction v using PyVal.induct with
  | commented v t ih => exact fun ctx tr => ih ctx tr
  | trailing v t ih => exact fun ctx _ => ih ctx (some t)
  | frozenset cls xs ih | seq kind cls xs ih =>
    intro ctx tr hd hk
    simp only [canonW, dropComments, dropL_length, dropL_isEmpty, canonL_of_inert ih ctx.nested (nested_depthLeft hd) hk]
  | call f args kwargs iha ihk =>
    intro ctx tr hd hk
    have hk := hk.imp_right Bool.and_eq_true_iff.mp
    simp only [canonW, dropComments, hugCall_drop, canonL_of_inert iha ctx hd (hk.imp_right (·.1)),
      canonL_of_inert iha ctx.nested (nested_depthLeft hd) (hk.imp_right (·.1)),
      canonKw_of_inert ihk ctx.nested (nested_depthLeft hd) (hk.imp_right (·.2))]
  | dict cls kvs ih =>
    intro ctx tr hd hk
    obtain ⟨e, hs⟩ := canonPairs_of_inert ih ctx hd hk
    show dictCanon ctx cls (canonPairs ctx kvs) _ = dictCanon ctx cls (canonPairs ctx (dropP kvs)) _
    rw [e, dictCanon_keys]
    exact fun h => hs (hk.resolve_left (by simp [h]))
  | _ => exact fun _ _ _ _ => rfl

theorem commentL_inert : (xs : List PyVal) → (ctx : Ctx) → ctx.depthLeft = none →
    (ctx.sortKeys = false ∨ keysPlainL xs = true) → canonL ctx xs = canonL ctx (dropL xs) :=
  fun _ => canonL_of_inert fun x _ => comment_inert x

theorem commentK_inert : (kws : List (Str × PyVal)) → (ctx : Ctx) → ctx.depthLeft = none →
    (ctx.sortKeys = false ∨ keysPlainK kws = true) → canonKw ctx kws = canonKw ctx (dropK kws) :=
  fun _ => canonKw_of_inert fun p _ => comment_inert p.2

theorem commentP_inert : (kvs : List (PyVal × PyVal)) → (ctx : Ctx) → ctx.depthLeft = none →
    (ctx.sortKeys = false ∨ keysPlainP kvs = true) →
    canonPairs ctx (dropP kvs) = (canonPairs ctx kvs).map (fun p => (dropComments p.1, p.2)) ∧
      (keysPlainP kvs = true → ∀ p ∈ canonPairs ctx kvs, sortKey (dropComments p.1) = sortKey p.1) :=
  fun _ => canonPairs_of_inert fun p _ => ⟨comment_inert p.1, comment_inert p.2⟩

theorem wf_drop : (v : PyVal) → wfVal v → wfVal (dropComments v) := by
  intro v
  induction v using PyVal.induct with
  | commented v t ih | trailing v t ih => exact ih
  | seq _ _ xs ih | frozenset _ xs ih => simp only [dropComments, wfVal, dropL_eq_map]; exact wfVals_map ih
  | dict _ kvs ih => simp only [dropComments, wfVal, dropP_eq_map]; exact wfPairs_map ih
  | call _ a k iha ihk =>
    simp only [dropComments, wfVal, dropL_eq_map, dropK_eq_map]; exact fun h => ⟨wfVals_map iha h.1, wfKws_map ihk h.2⟩
  | _ => exact id

theorem wfL_drop : (xs : List PyVal) → wfVals xs → wfVals (dropL xs) :=
  fun xs h => dropL_eq_map xs ▸ wfVals_map (fun x _ => wf_drop x) h
theorem wfK_drop : (xs : List (Str × PyVal)) → wfKws xs → wfKws (dropK xs) :=
  fun xs h => dropK_eq_map xs ▸ wfKws_map (fun p _ => wf_drop p.2) h
theorem wfP_drop : (xs : List (PyVal × PyVal)) → wfPairs xs → wfPairs (dropP xs) :=
  fun xs h => dropP_eq_map xs ▸ wfPairs_map (fun p _ => ⟨wf_drop p.1, wf_drop p.2⟩) h

end Tok
end PP
