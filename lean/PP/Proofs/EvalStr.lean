/-
What the evaluator of `pretty_str` can return: one literal, or the literals of the pieces `str_to_lines` cut the
value into, laid out in one of three ways; around either, the constructor call of a subclass.  The token theorem
(`ToksStr`) and the size bound (`EvBound`) go through these forms and never open `evalStr`.
-/
import PP.Model.StrDoc
import PP.Proofs.StrLines
namespace PP
namespace Pr
open Doc PyStr

/-- the constructor call around the literal of a `str` / `bytes` subclass instance -/
def wrapCls (sp : StrSpec) (d : Doc) : Doc :=
  match sp.cls with
  | none => d
  | some c => buildFncall sp.ppIndent (generalIdentifier c) [d] [] false none

/-- the literals of the pieces, one per line -/
def pieces (sp : StrSpec) (ls : List PS) : List Doc :=
  intersperse .hardline (ls.map (singleLineStr sp.isBytes (determineQuote sp.s)))

/-- what the proofs use of `str_to_lines`' answer, when it is not a single piece -/
structure Cut (s : PS) (ls : List PS) : Prop where
  join : ls.flatten = s
  two : 2 ≤ ls.length
  count : ls.length ≤ s.length

inductive StrBody (sp : StrSpec) : Doc → Prop
  | flat : StrBody sp (singleLineStr sp.isBytes (determineQuote sp.s) sp.s)
  | plain (ls) : Cut sp.s ls → StrBody sp (.ab (.cat (pieces sp ls)))
  | hang (ls) : Cut sp.s ls → StrBody sp (.ab (.nest sp.ppIndent (.cat (pieces sp ls))))
  | block (ls) (parens : Bool) : Cut sp.s ls →
      StrBody sp (.ab (.cat [if parens then LPAREN else .text [], .nest sp.ppIndent (.cat (.hardline :: pieces sp ls)),
        if parens then .hardline else .nil, if parens then RPAREN else .text []]))

theorem StrBody.not_commented {sp d} (h : StrBody sp d) : commented? d = none := by
  cases h <;> rfl

theorem evalStr_shape (sp : StrSpec) (i c w rw : Int) :
    ∃ body, StrBody sp body ∧ evalStr sp i c w rw = wrapCls sp body := by
  -- the goal as `M (evalStr …)`: the motive `iteInduction` is to find at each `if` of the evaluator
  let M (d : Doc) : Prop := ∃ body, StrBody sp body ∧ d = wrapCls sp body
  show M _
  unfold evalStr
  simp only []
  refine iteInduction (fun _ => ⟨_, .flat, rfl⟩) fun _ => ?_
  refine iteInduction (fun _ => ⟨_, .flat, rfl⟩) fun hlen => ?_
  generalize hls : strToLines sp.isBytes sp.slashPattern _ _ (determineQuote sp.s) sp.s = ls at hlen
  have hc : Cut sp.s ls := ⟨hls ▸ strToLines_join .., by omega, hls ▸ strToLines_count ..⟩
  refine iteInduction (fun _ => ⟨_, .plain ls hc, rfl⟩) fun h0 => ?_
  have hn : sp.cls = none := by
    cases h : sp.cls with
    | none => rfl
    | some _ => simp [h] at h0
  have hw : ∀ d, d = wrapCls sp d := fun d => by simp [wrapCls, hn]
  refine iteInduction (fun _ => ⟨_, .hang ls hc, hw _⟩) fun _ => ⟨_, .block ls _ hc, hw _⟩

end Pr
end PP
