/-
The stable insertion sort of dict entries (`insertK`, `sortK` of Model/Values.lean) permutes the entries and commutes with every
map that leaves the sort keys alone.  That the result is ordered and stable is the specification, Props/SortSpec.lean.
-/
import PP.Model.Values
import PP.Proofs.ValInd
namespace PP
open Pr

theorem Pr.sortK_cons {α} (x : PyVal × α) (xs : List (PyVal × α)) : sortK (x :: xs) = insertK x (sortK xs) := by
  simp [sortK, List.foldl_append]

namespace C01

theorem insertK_perm {α} (x : PyVal × α) (xs : List (PyVal × α)) : (insertK x xs).Perm (x :: xs) := by
  induction xs with
  | nil => exact .refl _
  | cons y r ih =>
    rw [insertK]; split
    · exact (ih.cons y).trans (.swap x y r)
    · exact .refl _

theorem sortK_perm {α} (xs : List (PyVal × α)) : (sortK xs).Perm xs := by
  induction xs with
  | nil => exact .refl _
  | cons x r ih => rw [sortK_cons]; exact (insertK_perm x _).trans (ih.cons x)

end C01

universe u v
variable {α : Type u} {β : Type v}

namespace Pr

theorem sortKeyL_eq_map : ∀ xs, sortKeyL xs = xs.map sortKey :=
  eq_map_of rfl fun _ _ => rfl

theorem mem_insertK {x z : PyVal × α} {l : List (PyVal × α)} : z ∈ insertK x l ↔ z = x ∨ z ∈ l := by
  rw [(C01.insertK_perm x l).mem_iff, List.mem_cons]

theorem mem_sortK {z : PyVal × α} {l : List (PyVal × α)} : z ∈ sortK l ↔ z ∈ l := (C01.sortK_perm l).mem_iff

theorem sortK_length (xs : List (PyVal × α)) : (sortK xs).length = xs.length := (C01.sortK_perm xs).length_eq

theorem insertK_comm (φ : PyVal × α → PyVal × β) (x : PyVal × α) (xs : List (PyVal × α))
    (hx : sortKey (φ x).1 = sortKey x.1) (hxs : ∀ p ∈ xs, sortKey (φ p).1 = sortKey p.1) :
    insertK (φ x) (xs.map φ) = (insertK x xs).map φ := by
  induction xs with
  | nil => rfl
  | cons y r ih =>
    have hr := ih (List.forall_mem_cons.mp hxs).2
    rw [List.map_cons, insertK, insertK, hx, (List.forall_mem_cons.mp hxs).1]
    split
    · rw [hr, List.map_cons]
    · rfl

theorem sortK_comm (φ : PyVal × α → PyVal × β) (xs : List (PyVal × α)) (h : ∀ p ∈ xs, sortKey (φ p).1 = sortKey p.1) :
    sortK (xs.map φ) = (sortK xs).map φ := by
  induction xs with
  | nil => rfl
  | cons x r ih =>
    have hr := (List.forall_mem_cons.mp h).2
    rw [List.map_cons, sortK_cons, sortK_cons, ih hr, insertK_comm φ x _ (List.forall_mem_cons.mp h).1 fun p hp => hr p (mem_sortK.mp hp)]

end Pr

namespace Tok
theorem sortK_map {α β} (f : α → β) (xs : List (PyVal × α)) :
    (sortK xs).map (fun p => (p.1, f p.2)) = sortK (xs.map fun p => (p.1, f p.2)) :=
  (sortK_comm (fun p => (p.1, f p.2)) xs fun _ _ => rfl).symm
end Tok

namespace Pr

/-! The entries a dict prints (`shownOrder`): in sorted order under `sort_dict_keys`, and the first `max_seq_len` of them. -/

theorem takeOpt_map (f : α → β) (n : Option Nat) (xs : List α) : (takeOpt n xs).map f = takeOpt n (xs.map f) := by
  cases n with
  | none => rfl
  | some k => exact List.map_take

theorem mem_takeOpt (n : Option Nat) (xs : List α) (x : α) (h : x ∈ takeOpt n xs) : x ∈ xs := by
  cases n with
  | none => exact h
  | some k => exact List.mem_of_mem_take h

theorem takeOpt_of_iff {pL : List α → Prop} {p : α → Prop} (iff : ∀ xs, pL xs ↔ ∀ x ∈ xs, p x) (n : Option Nat) {xs : List α}
    (h : pL xs) : pL (takeOpt n xs) :=
  (iff _).mpr fun x hx => (iff _).mp h x (mem_takeOpt n xs x hx)

theorem takeOpt_ne_nil {n : Option Nat} (hn : n ≠ some 0) {xs : List α} (h : xs ≠ []) : takeOpt n xs ≠ [] := by
  match n, xs with
  | none, _ => exact h
  | some 0, _ => exact absurd rfl hn
  | some (k + 1), x :: r => exact List.cons_ne_nil _ _

variable {m : Option Nat} {b : Bool} {xs : List (PyVal × α)}

theorem mem_shownOrder {p : PyVal × α} (h : p ∈ takeOpt m (if b then sortK xs else xs)) : p ∈ xs := by
  have := mem_takeOpt _ _ _ h
  split at this
  · exact mem_sortK.mp this
  · exact this

theorem shownOrder_ne_nil (hm : m ≠ some 0) (h : xs ≠ []) : takeOpt m (if b then sortK xs else xs) ≠ [] := by
  refine takeOpt_ne_nil hm ?_
  split
  · exact fun e => h (List.length_eq_zero_iff.mp (by rw [← sortK_length, e]; rfl))
  · exact h

theorem shownOrder_map (φ : PyVal × α → PyVal × β) (h : b = true → ∀ p ∈ xs, sortKey (φ p).1 = sortKey p.1) :
    takeOpt m (if b then sortK (xs.map φ) else xs.map φ) = (takeOpt m (if b then sortK xs else xs)).map φ := by
  rw [takeOpt_map]
  split
  · rw [sortK_comm φ xs (h ‹_›)]
  · rfl

end Pr
end PP
