/-
The image of one character under `repr`.  Everything the development knows about it is in the relation `RestImg`,
proved once for `str` and once for `bytes`; the escape theorem (`Escape`), the decoder (`RoundTrip`) and the length
bound (`EvBound`) read what they need off the relation, for both kinds and both quotes at once.
-/
import PP.Model.PyStr
namespace PP
namespace PyStr

theorem hexN_length : ∀ (w v : Nat), (hexN w v).length = w
  | 0, _ => rfl
  | w + 1, v => by simp [hexN, hexN_length w]

/-- hex digits are not quotes (34, 39) -/
theorem hexN_ge : ∀ (w v : Nat), ∀ x ∈ hexN w v, 48 ≤ x
  | 0, _, x, h => by simp [hexN] at h
  | w + 1, v, x, h => by
    simp only [hexN, List.mem_append, List.mem_singleton] at h
    rcases h with h | rfl
    · exact hexN_ge w (v / 16) x h
    · unfold hexDigit; split <;> omega

theorem ne_BS {q : Nat} (hq : q = SQ ∨ q = DQ) : q ≠ BS := by rcases hq with rfl | rfl <;> decide

/-- How `repr` writes a character that is neither the quote in use nor a backslash, when code points run below `B`:
the character itself, one of `\t \n \r`, or `\x`, `\u`, `\U` with 2, 4, 8 hex digits — never for printable ASCII, and
with digits enough for every code point below `B`. -/
inductive RestImg (B cp : Nat) : Str → Prop
  | raw : cp ≠ 10 → RestImg B cp [cp]
  | ctrl (e : Nat) : e = 116 ∧ cp = 9 ∨ e = 110 ∧ cp = 10 ∨ e = 114 ∧ cp = 13 → RestImg B cp [BS, e]
  | hex (e w : Nat) : e = 120 ∧ w = 2 ∨ e = 117 ∧ w = 4 ∨ e = 85 ∧ w = 8 → ¬ (32 ≤ cp ∧ cp < 127) →
      (cp < B → cp < 16 ^ w) → RestImg B cp ([BS, e] ++ hexN w cp)

/- One `iteInduction` per `if` of the definition, in its order; the image is written as the definition writes it
(`[BS, e] ++ hexN w cp`), so nothing is unfolded.  (`split` on a chain of this depth is very slow to check.) -/
theorem restImg_str (c : PChar) : RestImg 1114112 c.cp (reprRestStr c) :=
  iteInduction (fun h => .ctrl 116 (by simp_all)) fun _ =>
  iteInduction (fun h => .ctrl 110 (by simp_all)) fun h10 =>
  iteInduction (fun h => .ctrl 114 (by simp_all)) fun _ =>
  iteInduction (fun h => .hex 120 2 (by simp) (by simp at h; omega) (by simp at h; omega)) fun _ =>
  iteInduction (fun _ => .raw (by simpa using h10)) fun _ =>
  iteInduction (fun _ => .raw (by simpa using h10)) fun _ =>
  iteInduction (fun h => .hex 120 2 (by simp) (by omega) fun _ => h) fun _ =>
  iteInduction (fun h => .hex 117 4 (by simp) (by omega) fun _ => h) fun _ =>
  .hex 85 8 (by simp) (by omega) (by omega)

theorem restImg_bytes (c : PChar) : RestImg 256 c.cp (reprRestBytes c) :=
  iteInduction (fun h => .ctrl 116 (by simp_all)) fun _ =>
  iteInduction (fun h => .ctrl 110 (by simp_all)) fun h10 =>
  iteInduction (fun h => .ctrl 114 (by simp_all)) fun _ =>
  iteInduction (fun h => .hex 120 2 (by simp) (by simp at h; omega) id) fun _ => .raw (by simpa using h10)

theorem RestImg.quote {B cp img} (h : RestImg B cp img) (hc : cp = SQ ∨ cp = DQ) : img = [cp] := by
  have hc : 32 ≤ cp ∧ cp < 127 := by rcases hc with rfl | rfl <;> decide
  cases h with
  | raw => rfl
  | ctrl e he => omega
  | hex e w _ hp => exact absurd hc hp

/-- what an image holds besides its character are backslash, letters and digits -/
theorem RestImg.not_mem {B cp img} (h : RestImg B cp img) {a : Nat} (ha : a = SQ ∨ a = DQ) (hne : cp ≠ a) : a ∉ img := by
  have ha : a < 48 := by rcases ha with rfl | rfl <;> decide
  cases h with
  | raw => simpa using hne.symm
  | ctrl e he => simp only [List.mem_cons, List.not_mem_nil, or_false, BS]; omega
  | hex e w he =>
    intro hm
    rcases List.mem_append.mp hm with hm | hm
    · simp only [List.mem_cons, List.not_mem_nil, or_false, BS] at hm; omega
    · have := hexN_ge w cp a hm; omega

/-- an image begins with its character or with a backslash -/
theorem RestImg.head_ne {B cp img} (h : RestImg B cp img) {q : Nat} (hq : q ≠ BS) (h1 : cp ≠ q) (tl : Str) :
    (img ++ tl).head? ≠ some q := by
  cases h <;> simp [h1, hq.symm]

/-- `\U` and eight digits is the longest form -/
theorem RestImg.length_le {B cp img} (h : RestImg B cp img) : img.length ≤ 10 := by
  cases h with
  | raw => simp
  | ctrl => simp
  | hex e w he =>
    rcases he with ⟨-, rfl⟩ | ⟨-, rfl⟩ | ⟨-, rfl⟩ <;> simp [hexN_length]

/-- `repr`'s image of one character with quote `q`, over the function `rest` for the characters that are neither the
quote nor a backslash: `reprCharStr q = charOf reprRestStr q` and `reprCharBytes q = charOf reprRestBytes q` by `rfl` -/
def charOf (rest : PChar → Str) (q : Nat) (c : PChar) : Str :=
  if c.cp == q || c.cp == BS then [BS, c.cp] else rest c

theorem charOf_esc {rest : PChar → Str} {q : Nat} {c : PChar} (h : c.cp = q ∨ c.cp = BS) :
    charOf rest q c = [BS, c.cp] := if_pos (by simpa using h)

theorem charOf_rest {rest : PChar → Str} {q : Nat} {c : PChar} (h1 : c.cp ≠ q) (h2 : c.cp ≠ BS) :
    charOf rest q c = rest c := if_neg (by simp [h1, h2])

/-- With the backslash itself in the quote's place only the backslash is escaped.  Another quote changes the image
of its own character only. -/
theorem charOf_of_ne {rest : PChar → Str} {q : Nat} {c : PChar} (h : c.cp ≠ q) : charOf rest q c = charOf rest BS c := by
  simp [charOf, h]

def restOf (isBytes : Bool) : PChar → Str := if isBytes then reprRestBytes else reprRestStr

theorem reprBody_eq (isBytes : Bool) (q : Nat) (s : PS) : reprBody isBytes q s = s.flatMap (charOf (restOf isBytes) q) := by
  cases isBytes <;> rfl

theorem restOf_img (isBytes : Bool) (c : PChar) :
    RestImg (if isBytes then 256 else 1114112) c.cp (restOf isBytes c) := by
  cases isBytes
  · exact restImg_str c
  · exact restImg_bytes c

end PyStr
end PP
