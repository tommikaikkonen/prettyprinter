/-
Tokens of the document-building helpers (`bracket`, `commentdoc`, `sequence_of_docs`, `build_fncall`): each is
layout-invariant when its arguments are, its tokens are a fixed function of its arguments' tokens, and it is never a
comment annotation itself.

The three readings of a document — `toksOf`, `TInv P`, `commented?` — are computed by `simp`, and `apply_ite` carries a
reading into the branches of an `if` (taking a helper apart with `split` instead is much slower to check).  Where a helper
looks whether a document carries a comment, `cases d using commented_cases` puts the annotation in front of `simp`.
-/
import PP.Spec.Canon
import PP.Proofs.Toks
import PP.Proofs.Commented
namespace PP
namespace Tok
open Doc PyStr Pr

attribute [local simp] toksOf toksOfL TInv TInvL

@[simp] theorem TEq.rfl_iff (a : List CT) : TEq a a ↔ True := iff_true_intro (.refl a)
@[simp] theorem isBlank_sp : isBlank [32] = true := rfl
@[simp] theorem isBlank_sp2 : isBlank [32, 32] = true := rfl

theorem tailToks_cons (t : List CT) (els : List (List CT)) (tc : Bool) :
    tailToks (t :: els) tc = COMMA_T :: (t ++ tailToks els tc) := by
  simp [tailToks]

theorem seqToks_cons (t : List CT) (els : List (List CT)) (dangle : Bool) :
    seqToks (t :: els) dangle = t ++ tailToks els dangle := by
  induction els generalizing t with
  | nil => simp [seqToks, tailToks]
  | cons t2 r ih => rw [seqToks, ih, tailToks_cons]; simp

theorem seqToks_dangle (ts : List (List CT)) : seqToks ts true = seqToks ts false ++ [COMMA_T] := by
  cases ts <;> simp [seqToks, seqToks_cons, tailToks]

theorem seqToks_one (t : List CT) : seqToks [t] false = t := by simp [seqToks]

/-- a trailing comment is printed after a comma of its own: an empty last element -/
theorem seqToks_snoc_empty (t : List CT) (els : List (List CT)) : seqToks (t :: (els ++ [[]])) false = seqToks (t :: els) true := by
  simp [seqToks_cons, tailToks]

theorem callToks_eq (q : QualName) (hq : isBlank q.2 = false) (args : List (List CT)) :
    callToks q args = .code q.2 :: LP :: (seqToks args false ++ [RP]) := by
  simp [callToks, cd_of_not_blank _ hq]

theorem strCanon_eq (sp : StrSpec) :
    strCanon sp = wrapToks sp.cls ((if sp.isBytes then [CT.code [98]] else []) ++ [.lit (some (cps sp.s))]) := by
  obtain ⟨s, b, st, ind, cls⟩ := sp
  cases cls <;> simp [strCanon, wrapToks, callToks, cd, seqToks, LP, RP]

/-- the first component, the key itself, is carried along only for `sortK` -/
theorem dictPairToks_eq : ∀ (ps : List (PyVal × List CT × List CT)),
    dictPairToks ps = seqToks (ps.map fun p => p.2.1 ++ [COLON_T] ++ p.2.2) false
  | [] => rfl
  | [(_, kt, vt)] => by simp [dictPairToks, seqToks]
  | (_, kt, vt) :: p2 :: r => by simp [dictPairToks, seqToks, dictPairToks_eq (p2 :: r)]

theorem dictPairToks_congr (xs ys : List (PyVal × List CT × List CT)) (h : xs.map (·.2) = ys.map (·.2)) :
    dictPairToks xs = dictPairToks ys := by
  have := congrArg (List.map fun (p : List CT × List CT) => p.1 ++ [COLON_T] ++ p.2) h
  simp only [List.map_map, Function.comp_def] at this
  rw [dictPairToks_eq, dictPairToks_eq, this]

@[simp] theorem nc_cat (ds : List Doc) : commented? (.cat ds) = none := rfl
@[simp] theorem nc_group (d : Doc) : commented? (.group d) = none := rfl
@[simp] theorem nc_ab (d : Doc) : commented? (.ab d) = none := rfl
@[simp] theorem nc_text (s : Str) : commented? (.text s) = none := rfl
@[simp] theorem nc_pstr (sp : StrSpec) : commented? (.pstr sp) = none := rfl
@[simp] theorem nc_tk (t : Nat) (s : Str) : commented? (tk t s) = none := rfl

@[simp] theorem toksOf_tk (t : Nat) (s : Str) : toksOf (tk t s) = tkToks t s := by
  simp only [tk, toksOf, textOf, tkToks, cd]

@[simp] theorem tinv_tk (P) (t : Nat) (s : Str) : TInv P (tk t s) := by
  simp only [tk, TInv, Plain]; split <;> simp

@[simp] theorem toksOf_COMMA : toksOf COMMA = [COMMA_T] := by decide
@[simp] theorem toksOf_COLON : toksOf COLON = [COLON_T] := by decide
@[simp] theorem toksOf_ELLIPSIS : toksOf ELLIPSIS = [ELL] := by decide
@[simp] theorem toksOf_LPAREN : toksOf LPAREN = [LP] := by decide
@[simp] theorem toksOf_RPAREN : toksOf RPAREN = [RP] := by decide
@[simp] theorem toksOf_LBRACKET : toksOf LBRACKET = [.code [91]] := by decide
@[simp] theorem toksOf_RBRACKET : toksOf RBRACKET = [.code [93]] := by decide
@[simp] theorem toksOf_LBRACE : toksOf LBRACE = [.code [123]] := by decide
@[simp] theorem toksOf_RBRACE : toksOf RBRACE = [.code [125]] := by decide
@[simp] theorem toksOf_ASSIGN : toksOf ASSIGN_OP = [EQ_T] := by decide
@[simp] theorem toksOf_NEG : toksOf NEG_OP = [.code [45]] := by decide
@[simp] theorem toksOf_MUL : toksOf MUL_OP = [.code [42]] := by decide
@[simp] theorem toksOf_ADD : toksOf ADD_OP = [.code [43]] := by decide
@[simp] theorem toksOf_softline : toksOf softline = [] := by decide
@[simp] theorem toksOf_line : toksOf line = [] := by decide
@[simp] theorem toksOf_commentdoc (c : PS) : toksOf (commentdoc c) = [] := by simp [commentdoc]
@[simp] theorem toksOf_gi (q : QualName) : toksOf (generalIdentifier q) = cd q.2 := by
  unfold generalIdentifier; cases q.1 <;> simp [tkToks, tBuiltin, tFn, tComment, tStr]
@[simp] theorem toksOf_kw (s : Str) : toksOf (keywordArg s) = cd s := by
  simp [keywordArg, tkToks, tVar, tComment, tStr]

@[simp] theorem tinv_COMMA (P) : TInv P COMMA := tinv_tk P _ _
@[simp] theorem tinv_COLON (P) : TInv P COLON := tinv_tk P _ _
@[simp] theorem tinv_ELLIPSIS (P) : TInv P ELLIPSIS := tinv_tk P _ _
@[simp] theorem tinv_LPAREN (P) : TInv P LPAREN := tinv_tk P _ _
@[simp] theorem tinv_RPAREN (P) : TInv P RPAREN := tinv_tk P _ _
@[simp] theorem tinv_LBRACKET (P) : TInv P LBRACKET := tinv_tk P _ _
@[simp] theorem tinv_RBRACKET (P) : TInv P RBRACKET := tinv_tk P _ _
@[simp] theorem tinv_LBRACE (P) : TInv P LBRACE := tinv_tk P _ _
@[simp] theorem tinv_RBRACE (P) : TInv P RBRACE := tinv_tk P _ _
@[simp] theorem tinv_ASSIGN (P) : TInv P ASSIGN_OP := tinv_tk P _ _
@[simp] theorem tinv_NEG (P) : TInv P NEG_OP := tinv_tk P _ _
@[simp] theorem tinv_MUL (P) : TInv P MUL_OP := tinv_tk P _ _
@[simp] theorem tinv_ADD (P) : TInv P ADD_OP := tinv_tk P _ _
@[simp] theorem tinv_softline (P) : TInv P softline := by simp [softline]
@[simp] theorem tinv_line (P) : TInv P line := by simp [line]
@[simp] theorem tinv_commentdoc (P) (c : PS) : TInv P (commentdoc c) := by simp [commentdoc]
@[simp] theorem tinv_gi (P) (q : QualName) : TInv P (generalIdentifier q) := tinv_tk P _ _
@[simp] theorem tinv_kw (P) (s : Str) : TInv P (keywordArg s) := tinv_tk P _ _

@[simp] theorem toksOfL_append (xs ys : List Doc) : toksOfL (xs ++ ys) = toksOfL xs ++ toksOfL ys := by
  simp only [toksOfL_eq_flatMap, List.flatMap_append]

@[simp] theorem tinvL_append (P) (xs ys : List Doc) : TInvL P (xs ++ ys) ↔ TInvL P xs ∧ TInvL P ys := by
  simp only [tinvL_iff, List.mem_append, or_imp, forall_and]

@[simp] theorem toksOf_body (d : Doc) : toksOf (body d) = toksOf d := by
  unfold body
  cases d using commented_cases <;> simp [*]

@[simp] theorem tinv_body (P) (d : Doc) : TInv P (body d) ↔ TInv P d := by
  unfold body
  cases d using commented_cases <;> simp [*]

@[simp] theorem toksOf_bracket (ind : Int) (l child r : Doc) :
    toksOf (bracket ind l child r) = toksOf l ++ toksOf child ++ toksOf r := by
  simp [bracket]

@[simp] theorem tinv_bracket (P) (ind : Int) (l child r : Doc) :
    TInv P (bracket ind l child r) ↔ TInv P l ∧ TInv P child ∧ TInv P r := by
  simp [bracket]

/-- the last element carries a comment: its comma then has to stand before the comment, and `seqParts.go` writes it -/
def lastCommented (docs : List Doc) : Bool := match docs.getLast? with | some d => isCommented d | none => false

/-- the loops of `sequence_of_docs`, `build_fncall` and `pretty_dict` find the last item by counting: `idx` items done out of `n` -/
theorem last_eq {α} {idx n : Nat} {d : α} {r : List α} (h : idx + (d :: r).length = n) : (idx + 1 == n) = r.isEmpty := by
  cases r <;> simp at h ⊢ <;> omega

theorem toksOfL_seqGo (dangle : Bool) (n : Nat) : ∀ (docs : List Doc) (idx : Nat), idx + docs.length = n →
    toksOfL (seqParts.go dangle n docs idx) = seqToks (docs.map toksOf) (dangle && lastCommented docs)
  | [], _, _ => by simp [seqParts.go, seqToks, lastCommented]
  | [d], idx, hn => by
    rw [seqParts.go, last_eq hn]
    cases d using commented_cases <;> cases dangle <;> simp [*, seqParts.go, seqToks, lastCommented, isCommented]
  | d :: d2 :: r, idx, hn => by
    have ih := toksOfL_seqGo dangle n (d2 :: r) (idx + 1) (by simp at hn ⊢; omega)
    have hl : lastCommented (d :: d2 :: r) = lastCommented (d2 :: r) := by simp [lastCommented, List.getLast?_cons_cons]
    rw [seqParts.go, last_eq hn]
    cases d using commented_cases <;> simp [*, seqToks]

theorem tinvL_seqGo (P) (dangle : Bool) (n : Nat) : ∀ (docs : List Doc) (idx : Nat),
    TInvL P (seqParts.go dangle n docs idx) ↔ TInvL P docs
  | [], _ => by simp [seqParts.go]
  | d :: r, idx => by
    have ih := tinvL_seqGo P dangle n r (idx + 1)
    rw [seqParts.go]
    cases d using commented_cases <;> simp [*, apply_ite (TInvL P), apply_ite (TInv P), apply_ite toksOf]

@[simp] theorem toksOf_sequenceOfDocs (ind : Int) (left right : Doc) (docs : List Doc) (dangle fb : Bool) :
    toksOf (sequenceOfDocs ind left docs right dangle fb) =
      toksOf left ++ seqToks (docs.map toksOf) dangle ++ toksOf right := by
  have hgo := toksOfL_seqGo dangle docs.length docs 0 (by simp)
  unfold sequenceOfDocs seqParts
  show toksOf (if _ then Doc.ab (bracket ind left (.cat (if (dangle && !lastCommented docs) = true then _ else _)) right)
    else Doc.group (bracket ind left (.cat (if (dangle && !lastCommented docs) = true then _ else _)) right)) = _
  -- the dangling comma is written by `seqParts.go` when the last element carries a comment, and appended here when it does not
  cases dangle with
  | false => simp [apply_ite toksOf, hgo]
  | true =>
    cases hl : lastCommented docs with
    | true => simp [apply_ite toksOf, hgo, hl]
    | false => simp [apply_ite toksOf, hgo, hl, seqToks_dangle]

@[simp] theorem tinv_sequenceOfDocs (P) (ind : Int) (left right : Doc) (docs : List Doc) (dangle fb : Bool) :
    TInv P (sequenceOfDocs ind left docs right dangle fb) ↔ TInv P left ∧ TInvL P docs ∧ TInv P right := by
  have hgo := tinvL_seqGo P dangle docs.length docs 0
  unfold sequenceOfDocs seqParts
  simp [apply_ite (TInv P), apply_ite (TInvL P), hgo]

@[simp] theorem nc_sequenceOfDocs (ind : Int) (l r : Doc) (docs : List Doc) (dg fb : Bool) :
    commented? (sequenceOfDocs ind l docs r dg fb) = none := by
  unfold sequenceOfDocs; simp [apply_ite commented?]

theorem toksOfL_fncallParts (n : Nat) : ∀ (docs : List Doc) (idx : Nat) (hc : Bool), idx + docs.length = n →
    toksOfL (fncallParts n docs idx hc).1 = seqToks (docs.map toksOf) false
  | [], _, _, _ => by simp [fncallParts, seqToks]
  | [d], idx, hc, hn => by
    rw [fncallParts, last_eq hn]
    cases d using commented_cases <;> simp [*, fncallParts, seqToks, apply_ite toksOf]
  | d :: d2 :: r, idx, hc, hn => by
    have ih := fun hc => toksOfL_fncallParts n (d2 :: r) (idx + 1) hc (by simp at hn ⊢; omega)
    rw [fncallParts, last_eq hn]
    cases d using commented_cases <;> simp [*, seqToks, apply_ite toksOf]

theorem tinvL_fncallParts (P) (n : Nat) : ∀ (docs : List Doc) (idx : Nat) (hc : Bool),
    TInvL P (fncallParts n docs idx hc).1 ↔ TInvL P docs
  | [], _, _ => by simp [fncallParts]
  | d :: r, idx, hc => by
    have ih := fun hc => tinvL_fncallParts P n r (idx + 1) hc
    rw [fncallParts]
    cases d using commented_cases <;> simp [*, apply_ite (TInv P), apply_ite toksOf]

@[simp] theorem toksOf_kwargDoc (b : Str) (d : Doc) : toksOf (kwargDoc b d) = cd b ++ [EQ_T] ++ toksOf d := by
  unfold kwargDoc
  cases d using commented_cases <;> simp [*]

@[simp] theorem tinv_kwargDoc (P) (b : Str) (d : Doc) : TInv P (kwargDoc b d) ↔ TInv P d := by
  unfold kwargDoc
  cases d using commented_cases <;> simp [*]

theorem toksOf_buildRest (ind : Int) (fn : Doc) (all : List Doc) :
    toksOf (buildFncall.buildRest ind fn all none) = toksOf fn ++ [LP] ++ seqToks (all.map toksOf) false ++ [RP] := by
  have h := toksOfL_fncallParts all.length all 0 false (by simp)
  simp [buildFncall.buildRest, apply_ite toksOf, h]

theorem tinv_buildRest (P) (ind : Int) (fn : Doc) (all : List Doc) :
    TInv P (buildFncall.buildRest ind fn all none) ↔ TInv P fn ∧ TInvL P all := by
  have h := tinvL_fncallParts P all.length all 0 false
  simp [buildFncall.buildRest, apply_ite (TInv P), h]

theorem toksOf_buildFncall (ind : Int) (fn : Doc) (args : List Doc) (kw : List (Str × Doc)) (hug : Bool) :
    toksOf (buildFncall ind fn args kw hug none) =
      toksOf fn ++ [LP] ++ seqToks ((args ++ kw.map fun (b, d) => kwargDoc b d).map toksOf) false ++ [RP] := by
  refine buildFncall_cases (C := fun d => toksOf d = _) ind fn args kw hug ?_ ?_ (toksOf_buildRest ..)
  · rintro rfl rfl; simp [seqToks]
  · rintro a rfl rfl; simp [seqToks]

@[simp] theorem toksOf_call1 (ind : Int) (fn : QualName) (a : Doc) (hug : Bool) :
    toksOf (buildFncall ind (generalIdentifier fn) [a] [] hug none) = callToks fn [toksOf a] := by
  rw [toksOf_buildFncall]; simp [callToks]

@[simp] theorem tinv_buildFncall (P) (ind : Int) (fn : Doc) (args : List Doc) (kw : List (Str × Doc)) (hug : Bool) :
    TInv P (buildFncall ind fn args kw hug none) ↔ TInv P fn ∧ TInvL P args ∧ ∀ p ∈ kw, TInv P p.2 := by
  refine buildFncall_cases (C := fun d => TInv P d ↔ _) ind fn args kw hug ?_ ?_ ?_
  · rintro rfl rfl; simp
  · rintro a rfl rfl; simp
  · simp only [tinv_buildRest, tinvL_append, tinvL_iff P (kw.map _), List.forall_mem_map, tinv_kwargDoc]

@[simp] theorem nc_buildFncall (ind : Int) (fn : Doc) (args : List Doc) (kw : List (Str × Doc)) (hug : Bool) :
    commented? (buildFncall ind fn args kw hug none) = none :=
  buildFncall_cases (C := fun d => commented? d = none) ind fn args kw hug (fun _ _ => rfl) (fun _ _ _ => rfl)
    (by simp [buildFncall.buildRest, apply_ite commented?])

end Tok
end PP
