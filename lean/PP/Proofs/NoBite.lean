/-
When no limit bites — every container is at most as long as max_seq_len and the depth limit exceeds the nesting that
the printers descend (`lenOk`, `levels`) — the shown value is the same as with no limit at all, hence so are the tokens of the output.
`shown_unlim` is a mutual recursion with its three list forms, not `PyVal.induct`: the hypothesis on a list, `DepthOk ctx (levelsL xs)`
with `levelsL` a maximum, is not by any iff the hypothesis on each element (for the empty list the limit may be 0), so the list
forms are proved alongside.
-/
import PP.Proofs.Shown
namespace PP
namespace Tok
open Doc PyStr Pr

theorem DepthOk.zero {ctx : Ctx} {n : Nat} (h : DepthOk ctx n) : ctx.depthZero = false := by
  rcases h with h | ⟨d, h, hd⟩ <;> simp [Ctx.depthZero, h]
  omega

theorem DepthOk.nested {ctx : Ctx} {n k : Nat} (h : DepthOk ctx n) (hk : k + 1 ≤ n) : DepthOk ctx.nested k := by
  rcases h with h | ⟨d, h, hd⟩
  · exact Or.inl (nested_depthLeft h)
  · exact Or.inr ⟨d - 1, by simp [Ctx.nested, h], by omega⟩

/-- the form in which the containers use `nested`: `levels` of a container is `1 +` that of its parts -/
theorem DepthOk.below {ctx : Ctx} {n k : Nat} (h : DepthOk ctx (1 + n)) (hk : k ≤ n) : DepthOk ctx.nested k :=
  h.nested (by omega)

theorem DepthOk.mono {ctx : Ctx} {n k : Nat} (h : DepthOk ctx n) (hk : k ≤ n) : DepthOk ctx k :=
  h.imp_right fun ⟨d, h, hd⟩ => ⟨d, h, by omega⟩

theorem LenOk.nested {ctx : Ctx} {p : Nat → Bool} (h : LenOk ctx p) : LenOk ctx.nested p := h

theorem LenOk.and {ctx : Ctx} {p q : Nat → Bool} (h : LenOk ctx fun m => p m && q m) : LenOk ctx p ∧ LenOk ctx q :=
  ⟨h.imp_right fun ⟨m, e, hm⟩ => ⟨m, e, (Bool.and_eq_true_iff.mp hm).1⟩,
   h.imp_right fun ⟨m, e, hm⟩ => ⟨m, e, (Bool.and_eq_true_iff.mp hm).2⟩⟩

theorem LenOk.fits {ctx : Ctx} {len : Nat} (h : LenOk ctx fun m => decide (len ≤ m)) : Fits len ctx.maxSeqLen := by
  rcases h with h | ⟨m, h, hm⟩
  · exact h ▸ Fits.none len
  · intro n e; cases h.symm.trans e; exact of_decide_eq_true hm

mutual
theorem shown_unlim : (v : PyVal) → (ctx : Ctx) → DepthOk ctx (levels v) → LenOk ctx (fun m => lenOk m v) →
    shown ctx v = shown ctx.unlim v
  | .commented v t, ctx, hd, hl => by rw [shown, shown, shown_unlim v ctx hd hl]
  | .trailing v t, ctx, hd, hl => by rw [shown, shown, shown_unlim v ctx hd hl]
  | .none, _, _, _ | .ellipsis, _, _, _ | .bool _, _, _, _ | .opaque _, _, _, _ | .ident _, _, _, _ | .timedelta _ _ _, _, _, _ => rfl
  | .path _ _, ctx, hd, _ | .int _ _ _, ctx, hd, _ | .str _ _ _, ctx, hd, _ => by simp [shown, hd.zero]
  | .float cls kind lit n d, ctx, hd, _ => by
      by_cases hk : (kind == 0) = true
      · simp [shown, hd.zero, hk]
      · have hn : ctx.nested.depthZero = false := (hd.nested (k := 0) (by simp [levels, hk])).zero
        have : ctx.unlim.nested.depthZero = false := rfl
        simp [shown, hd.zero, hn, this]
  | .frozenset cls xs, ctx, hd, hl => by
      have hl : LenOk ctx (fun m => decide (xs.length ≤ m)) ∧ LenOk ctx (fun m => lenOkL m xs) := hl.and
      rw [shown_fset_fits hd.zero _ _ hl.1.fits, shown_fset_fits rfl _ _ (Fits.none _), ← unlim_nested,
        shownL_unlim xs ctx.nested (hd.below (Nat.le_refl _)) hl.2]
  | .seq kind cls xs, ctx, hd, hl => by
      have hl : LenOk ctx (fun m => decide (xs.length ≤ m)) ∧ LenOk ctx (fun m => lenOkL m xs) := hl.and
      rw [shown_seq_eq hd.zero, shown_seq_eq rfl, cutSeq_fits hl.1.fits, cutSeq_fits (Fits.none _), ← unlim_nested,
        shownL_unlim xs ctx.nested (hd.below (Nat.le_refl _)) hl.2]
  | .call f args kwargs, ctx, hd, hl => by
      have hl : LenOk ctx (fun m => lenOkL m args) ∧ LenOk ctx (fun m => lenOkK m kwargs) := hl.and
      rw [shown_call_eq hd.zero, shown_call_eq rfl, ← unlim_nested,
        shownL_unlim args ctx (hd.mono (Nat.le_trans (Nat.le_max_left _ _) (Nat.le_add_left _ 1))) hl.1,
        shownL_unlim args ctx.nested (hd.below (Nat.le_max_left _ _)) hl.1,
        shownK_unlim kwargs ctx.nested (hd.below (Nat.le_max_right _ _)) hl.2]
  | .dict cls kvs, ctx, hd, hl => by
      have hl : LenOk ctx (fun m => decide (kvs.length ≤ m)) ∧ LenOk ctx (fun m => lenOkP m kvs) := hl.and
      rw [shown_dict_eq hd.zero, shown_dict_eq rfl, cutDict_fits hl.1.fits _ (shownPairs_length _ _),
        cutDict_fits (Fits.none _) _ (shownPairs_length _ _), shownP_unlim kvs ctx hd hl.2]
      rfl

theorem shownL_unlim : (xs : List PyVal) → (ctx : Ctx) → DepthOk ctx (levelsL xs) → LenOk ctx (fun m => lenOkL m xs) →
    shownL ctx xs = shownL ctx.unlim xs
  | [], _, _, _ => rfl
  | v :: r, ctx, hd, hl => by
      have hl : LenOk ctx (fun m => lenOk m v) ∧ LenOk ctx (fun m => lenOkL m r) := hl.and
      rw [shownL, shownL, shown_unlim v ctx (hd.mono (Nat.le_max_left _ _)) hl.1, shownL_unlim r ctx (hd.mono (Nat.le_max_right _ _)) hl.2]

theorem shownK_unlim : (kws : List (Str × PyVal)) → (ctx : Ctx) → DepthOk ctx (levelsK kws) → LenOk ctx (fun m => lenOkK m kws) →
    shownKw ctx kws = shownKw ctx.unlim kws
  | [], _, _, _ => rfl
  | (k, v) :: r, ctx, hd, hl => by
      have hl : LenOk ctx (fun m => lenOk m v) ∧ LenOk ctx (fun m => lenOkK m r) := hl.and
      rw [shownKw, shownKw, shown_unlim v ctx (hd.mono (Nat.le_max_left _ _)) hl.1, shownK_unlim r ctx (hd.mono (Nat.le_max_right _ _)) hl.2]

/-- `1 + levelsP kvs` where the siblings have `levelsL xs`, `levelsK kws`: `shownPairs` gets the context of the dict and takes the step
to `ctx.nested` itself -/
theorem shownP_unlim : (kvs : List (PyVal × PyVal)) → (ctx : Ctx) → DepthOk ctx (1 + levelsP kvs) → LenOk ctx (fun m => lenOkP m kvs) →
    shownPairs ctx kvs = shownPairs ctx.unlim kvs
  | [], _, _, _ => rfl
  | (k, v) :: r, ctx, hd, hl => by
      have hl : (LenOk ctx (fun m => lenOk m k) ∧ LenOk ctx (fun m => lenOk m v)) ∧ LenOk ctx (fun m => lenOkP m r) :=
        ⟨hl.and.1.and, hl.and.2⟩
      rw [shownPairs, shownPairs, ← unlim_nested,
        shown_unlim k ctx.nested (hd.below (Nat.le_trans (Nat.le_max_left _ _) (Nat.le_max_left _ _))) hl.1.1,
        shown_unlim v ctx.nested (hd.below (Nat.le_trans (Nat.le_max_right _ _) (Nat.le_max_left _ _))) hl.1.2,
        shownP_unlim r ctx (hd.mono (Nat.add_le_add_left (Nat.le_max_right _ _) 1)) hl.2]
end

end Tok
end PP
