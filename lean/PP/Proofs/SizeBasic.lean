/-
C12: what the building blocks of the printers cost in the measure `rsize` of `Model/Doc.lean`.  Each block is measured
once, here; the bounds on the combinators and on the printers then only add these up.
-/
import PP.Proofs.ValInd
import PP.Proofs.SizeAttr
namespace PP
namespace Pr
open Doc PyStr

def sumBy {α} (f : α → Nat) : List α → Nat
  | [] => 0
  | x :: r => f x + sumBy f r

theorem sumBy_append {α} (f : α → Nat) (xs ys : List α) : sumBy f (xs ++ ys) = sumBy f xs + sumBy f ys := by
  induction xs with
  | nil => simp [sumBy]
  | cons x r ih => simp +arith only [List.cons_append, sumBy, ih]

theorem sumBy_flatten {α} (a b : Nat) (ls : List (List α)) :
    sumBy (fun l => a * l.length + b) ls = a * ls.flatten.length + b * ls.length := by
  induction ls with
  | nil => rfl
  | cons l r ih => simp only [sumBy, ih, List.flatten_cons, List.length_append, List.length_cons, Nat.mul_add, Nat.mul_succ]; omega

theorem sumBy_take {α} (f : α → Nat) (n : Option Nat) (xs : List α) : sumBy f (takeOpt n xs) ≤ sumBy f xs := by
  cases n with
  | none => exact Nat.le_refl _
  | some k => exact Nat.le.intro ((sumBy_append f _ _).symm.trans (congrArg _ (List.take_append_drop k xs)))

theorem sumBy_perm {α} (f : α → Nat) {xs ys : List α} (h : xs.Perm ys) : sumBy f xs = sumBy f ys := by
  induction h with
  | nil => rfl
  | cons x _ ih => simp [sumBy, ih]
  | swap x y l => simp +arith only [sumBy]
  | trans _ _ ih1 ih2 => rw [ih1, ih2]

theorem sumBy_le_length {α} (f : α → Nat) (k : Nat) (xs : List α) (h : ∀ x ∈ xs, f x ≤ k) : sumBy f xs ≤ k * xs.length := by
  induction xs with
  | nil => simp [sumBy]
  | cons x r ih =>
    have h1 := h x (by simp)
    have h2 := ih (fun y hy => h y (by simp [hy]))
    simp only [sumBy, List.length_cons, Nat.mul_succ]; omega

@[rsz] theorem rsize_nil : rsize .nil = 1 := rfl
@[rsz] theorem rsize_text (s : Str) : rsize (.text s) = 1 := rfl
@[rsz] theorem rsize_hardline : rsize .hardline = 1 := rfl
@[rsz] theorem rsize_cat (ds : List Doc) : rsize (.cat ds) = rsizes ds + 1 := by rw [rsize, Nat.add_comm]
@[rsz] theorem rsize_nest (i : Int) (d : Doc) : rsize (.nest i d) = rsize d + 1 := by rw [rsize, Nat.add_comm]
@[rsz] theorem rsize_group (d : Doc) : rsize (.group d) = rsize d + 1 := by rw [rsize, Nat.add_comm]
@[rsz] theorem rsize_ab (d : Doc) : rsize (.ab d) = rsize d + 1 := by rw [rsize, Nat.add_comm]
@[rsz] theorem rsize_ann (a : Ann) (d : Doc) : rsize (.ann a d) = rsize d + 2 := by rw [rsize, Nat.add_comm]
@[rsz] theorem rsize_pstr (sp : StrSpec) : rsize (.pstr sp) = 64 * sp.s.length + 66 := by
  simp +arith only [rsize, StrSpec.bound]
@[rsz] theorem rsizes_nil : rsizes [] = 0 := rfl
@[rsz] theorem rsizes_cons (d : Doc) (ds : List Doc) : rsizes (d :: ds) = rsize d + rsizes ds := by rw [rsizes]

@[rsz] theorem rsizes_append (xs ys : List Doc) : rsizes (xs ++ ys) = rsizes xs + rsizes ys := by
  induction xs with
  | nil => simp [rsizes]
  | cons x r ih => simp +arith only [List.cons_append, rsizes, ih]

theorem rsize_pos (d : Doc) : 0 < rsize d := Nat.lt_of_lt_of_le (size_pos d) (size_le_rsize d)

/-- A choice costs its dearer alternative, and both may be measured with `rsize`: this is all the combinators need of
`size`. -/
theorem rsize_choice_le {l : Bool} {b f : Doc} {k : Nat} (hb : rsize b + 1 ≤ k) (hf : rsize f + 1 ≤ k) :
    rsize (.choice l b f) ≤ k := by
  have := size_le_rsize f
  simp only [rsize]; omega

theorem rsizes_map_const {α} (f : α → Doc) (k : Nat) (hf : ∀ x, rsize (f x) = k) (ps : List α) :
    rsizes (ps.map f) = k * ps.length := by
  induction ps with
  | nil => rfl
  | cons p r ih => rw [List.map_cons, rsizes, ih, hf, List.length_cons, Nat.mul_succ, Nat.add_comm]

theorem rsizes_optional (c : Prop) [Decidable c] (xs : List Doc) : rsizes (if c then xs else []) ≤ rsizes xs :=
  ite_le_of (Nat.le_refl _) (Nat.zero_le _)

/-- each entry is charged with its separator -/
theorem rsizes_intersperse_map {α} (f : α → Doc) (x : Doc) (g : α → Nat) (h : ∀ a, rsize (f a) + rsize x ≤ g a) :
    ∀ (xs : List α), rsizes (intersperse x (xs.map f)) ≤ sumBy g xs
  | [] => Nat.le_refl 0
  | [a] => Nat.le_trans (Nat.le_add_right ..) (h a)
  | a :: b :: r => by
    have ih := rsizes_intersperse_map f x g h (b :: r)
    simp only [List.map_cons, intersperse, rsizes, sumBy] at ih ⊢
    exact Nat.add_assoc .. ▸ Nat.add_le_add (h a) ih

@[rsz] theorem rsize_tk (t : Nat) (s : Str) : rsize (tk t s) = 3 := rfl
theorem size_tk (t : Nat) (s : Str) : size (tk t s) = 3 := rfl

@[simp, rsz] theorem rsize_COMMA : rsize COMMA = 3 := rsize_tk ..
@[simp, rsz] theorem rsize_line : rsize line = 2 := rfl
@[simp, rsz] theorem rsize_softline : rsize softline = 2 := rfl
@[simp] theorem size_softline : size softline = 2 := rfl
@[simp, rsz] theorem rsize_LPAREN : rsize LPAREN = 3 := rsize_tk ..
@[simp, rsz] theorem rsize_RPAREN : rsize RPAREN = 3 := rsize_tk ..
@[simp] theorem size_COMMA : size COMMA = 3 := size_tk ..
@[simp, rsz] theorem rsize_COLON : rsize COLON = 3 := rsize_tk ..
@[simp] theorem size_COLON : size COLON = 3 := size_tk ..
@[simp] theorem size_line : size line = 2 := rfl
@[simp, rsz] theorem rsize_ELLIPSIS : rsize ELLIPSIS = 3 := rsize_tk ..
@[simp, rsz] theorem rsize_LBRACE : rsize LBRACE = 3 := rsize_tk ..
@[simp, rsz] theorem rsize_RBRACE : rsize RBRACE = 3 := rsize_tk ..

theorem rsize_optComma (b : Bool) : rsize (if b then COMMA else .nil) ≤ 3 ∧ rsize (if b then .nil else COMMA) ≤ 3 := by
  cases b <;> decide
theorem rsize_optHardline (b : Bool) :
    rsize (if b then .hardline else .nil) ≤ 1 ∧ rsize (if b then .nil else .hardline) ≤ 1 := by
  cases b <;> decide
theorem rsize_optLine (b : Bool) : rsize (if b then line else .nil) ≤ 2 ∧ rsize (if b then .nil else line) ≤ 2 := by
  cases b <;> decide

@[rsz] theorem rsize_gi (q : QualName) : rsize (generalIdentifier q) = 3 := rfl

@[rsz] theorem rsize_ab_or_group (c : Prop) [Decidable c] (d : Doc) :
    rsize (if c then .ab d else .group d) = rsize d + 1 := by
  split <;> simp only [rsz]

@[rsz] theorem rsize_bracket (ind : Int) (l child r : Doc) :
    rsize (bracket ind l child r) = rsize l + rsize child + rsize r + 7 := by
  simp +arith only [bracket, rsz]

end Pr
end PP
