/-
With max_seq_len ≥ 1 (any depth limit, any sort flag) the shown value of a readable value is readable: truncation keeps a
prefix of every container and wraps it in a trailing comment, sorting permutes dict entries, a truncated frozenset becomes
`frozenset([...])` written as a call, a node at the depth cut becomes a placeholder (`name(...)`, `[...]`, `(...)`, `{...}`)
that the reader reads too.  So the reader theorem applies to truncated, sorted and depth-limited output.
-/
import PP.Proofs.ReaderRT
import PP.Proofs.Shown
namespace PP
namespace Tok
open Doc PyStr Pr

theorem Trunc.nested {ctx : Ctx} (h : Trunc ctx) : Trunc ctx.nested := h

theorem phName_of_okName (s : Str) (h : okName s = true) : phName s = true := by
  simp only [okName, Bool.and_eq_true, Bool.not_eq_true'] at h
  simp only [phName, Bool.and_eq_true, Bool.not_eq_true']
  exact ⟨⟨h.1.1.1.1.1, h.1.1.1.1.2⟩, h.2⟩

theorem inRd_phCall (fn : QualName) (h : phName fn.2 = true) : inRd (phCall fn) = true := by
  simp [phCall, inRd, identPh, h, sEll]

theorem inRd_phLit (kind : Nat) : inRd (phLit kind) = true :=
  match kind with
  | 0 | 1 | _ + 2 => rfl

theorem inRd_call1 {f : QualName} {a : PyVal} (hf : okName f.2 = true) (ha : inRd a = true) : inRd (.call f [a] []) = true := by
  simp [inRd, inRdL, inRdK, hf, ha]

theorem phName_cls (cls : Option QualName) (hc : clsOk cls = true) (nm : Str) (hb : phName nm = true) :
    phName (cls.getD (builtin nm)).2 = true := by
  cases cls with
  | none => exact hb
  | some q => exact phName_of_okName _ hc

theorem phName_seqName (kind : Nat) : phName (seqName kind) = true := by
  unfold seqName; split
  · decide
  · split <;> decide

/-- what a subclass instance is shown as at the cut: the literal placeholder, wrapped in the call of the class -/
theorem inRd_phWrap {cls : Option QualName} (hc : clsOk cls = true) (nm : Str) (kind : Nat) :
    inRd (if cls.isNone then phLit kind else .call (cls.getD (builtin nm)) [phLit kind] []) = true := by
  cases cls with
  | none => exact inRd_phLit kind
  | some q => exact inRd_call1 hc (inRd_phLit kind)

theorem emptyDictSub_ph (fn : QualName) : emptyDictSub (phCall fn) = false := rfl
theorem emptyDictSub_phLit (k : Nat) : emptyDictSub (phLit k) = false := rfl

theorem emptyDictSub_dict {cls : Option QualName} {l : List (PyVal × PyVal)} :
    emptyDictSub (.dict cls l) = true ↔ cls.isSome = true ∧ l = [] := by
  cases cls <;> cases l <;> simp [emptyDictSub]

theorem inRd_cutSeq (ctx : Ctx) {kind : Nat} {cls : Option QualName} (len : Nat) {ys : List PyVal} (hc : clsOk cls = true)
    (hk : kind ≤ 2) (h : inRdL ys = true) : inRd (cutSeq ctx kind cls len ys) = true := by
  have hs {l} (hl : inRdL l = true) : inRd (.seq kind cls l) = true := by simp [inRd, hc, hk, hl]
  unfold cutSeq
  split
  · rw [inRd, hs (ite_eq_of h (takeOpt_of_iff inRdL_iff _ h))]; simp [emptyDictSub]
  · exact hs h

/-- a cut dict is not empty, so the truncation comment does not change how it reads (K7) -/
theorem inRd_cutDict (ctx : Ctx) (hT : Trunc ctx) {cls : Option QualName} (hc : clsOk cls = true) {kvs : List (PyVal × PyVal)}
    (h : ∀ q ∈ shownPairs ctx kvs, inRd q.2.1 = true ∧ inRd q.2.2 = true) :
    inRd (cutDict ctx cls kvs.length (shownPairs ctx kvs)) = true := by
  have hd : inRd (.dict cls (shownEntries ctx (shownPairs ctx kvs))) = true := by
    rw [inRd, hc, Bool.true_and, inRdP_iff]; exact forall_shownEntries h
  unfold cutDict
  split
  · rename_i t ht
    have hne : kvs ≠ [] := fun e => by subst e; cases ht.symm.trans (withTruncation_fits (Fits.zero _) none)
    have : emptyDictSub (.dict cls (shownEntries ctx (shownPairs ctx kvs))) = false :=
      Bool.eq_false_iff.mpr fun he => hne (shownEntries_eq_nil hT (emptyDictSub_dict.mp he).2)
    rw [inRd, hd, this, Bool.not_false, Bool.or_true]; rfl
  · exact hd

theorem emptyDictSub_cutSeq (ctx : Ctx) (kind cls len ys) : emptyDictSub (cutSeq ctx kind cls len ys) = false := by
  unfold cutSeq; split <;> rfl

theorem emptyDictSub_shown (ctx : Ctx) (hT : Trunc ctx) : ∀ (v : PyVal), emptyDictSub (shown ctx v) = true → emptyDictSub v = true := by
  intro v
  induction v using PyVal.induct with
  | commented v t ih | trailing v t ih => exact ih
  | dict cls kvs =>
    intro h
    cases hz : ctx.depthZero with
    | true => simp only [shown, hz, if_true] at h; split at h <;> cases h
    | false =>
      -- with or without the truncation comment: empty only if no entry is shown, that is, if there is none
      have key : emptyDictSub (.dict cls (shownEntries ctx (shownPairs ctx kvs))) = true := by
        rw [shown_dict_eq hz, cutDict] at h; split at h <;> exact h
      exact emptyDictSub_dict.mpr ((emptyDictSub_dict.mp key).imp_right (shownEntries_eq_nil hT))
  | frozenset cls xs =>
    have : emptyDictSub (shown ctx (.frozenset cls xs)) = false := by
      rw [shown]; exact ite_eq_of rfl (by split <;> rfl)
    exact fun h => nomatch this.symm.trans h
  | seq | call | float | path | int | str =>
    -- no branch of `shown` makes a dict of these
    intro h; simp [shown, apply_ite emptyDictSub, emptyDictSub, emptyDictSub_ph, emptyDictSub_phLit, emptyDictSub_cutSeq] at h
  | _ => exact fun h => nomatch h

theorem isListLit_cons (y : PyVal) (ys : List PyVal) : isListLit (.seq 0 none (y :: ys)) = true := rfl

theorem isListLit_of_ne_nil {l : List PyVal} (h : l ≠ []) : isListLit (.seq 0 none l) = true := by
  cases l with
  | nil => exact absurd rfl h
  | cons y ys => rfl

theorem isListLit_shown (ctx : Ctx) (hT : Trunc ctx) (hz : ctx.depthZero = false) : ∀ (x : PyVal), isListLit (stripComments x) = true →
    isListLit (stripComments (shown ctx x)) = true := by
  intro x
  induction x using PyVal.induct with
  | commented v t ih | trailing v t ih => exact ih
  | seq kind cls xs =>
    intro h
    obtain ⟨y, ys, e⟩ := isListLit_spec _ h
    cases e
    rw [shown_seq_eq hz, cutSeq]
    have hne := shownL_ne_nil ctx.nested (List.cons_ne_nil y ys)
    split
    · exact isListLit_of_ne_nil (ite_of (P := (· ≠ [])) hne (takeOpt_ne_nil hT hne))  -- N ≥ 1 keeps one element at least
    · exact isListLit_of_ne_nil hne
  | _ => exact fun h => nomatch h

theorem nmFrozenset_eq : (builtin nmFrozenset).2 = sFrozenset := rfl

theorem phName_call {f : QualName} {args kwargs} (h : (okName f.2 || fsetLit f args kwargs || floatPh f args kwargs) = true) :
    phName f.2 = true := by
  simp only [Bool.or_eq_true] at h
  rcases h with (h | h) | h
  · exact phName_of_okName _ h
  · rw [(fsetLit_spec h).1]; decide
  · rw [(floatPh_spec h).1]; decide

/-- `inRd_shown` of one value, as the induction has it -/
abbrev RdShown (v : PyVal) : Prop := ∀ ctx : Ctx, Trunc ctx → inRd v = true → inRd (shown ctx v) = true

theorem inRdL_shownL {xs : List PyVal} (ih : ∀ x ∈ xs, RdShown x) (ctx : Ctx) (hT : Trunc ctx) (h : inRdL xs = true) :
    inRdL (shownL ctx xs) = true := by
  rw [inRdL_iff, shownL_eq_map]
  exact List.forall_mem_map.mpr fun x hx => ih x hx ctx hT ((inRdL_iff xs).mp h x hx)

theorem inRdK_shownKw {kws : List (Str × PyVal)} (ih : ∀ p ∈ kws, RdShown p.2) (ctx : Ctx) (hT : Trunc ctx) (h : inRdK kws = true) :
    inRdK (shownKw ctx kws) = true := by
  rw [inRdK_iff, shownKw_eq_map]
  exact List.forall_mem_map.mpr fun p hp => ⟨((inRdK_iff kws).mp h p hp).1, ih p hp ctx hT ((inRdK_iff kws).mp h p hp).2⟩

theorem inRd_shown : (v : PyVal) → (ctx : Ctx) → Trunc ctx → inRd v = true → inRd (shown ctx v) = true := by
  intro v
  induction v using PyVal.induct with
  | commented v t ih => exact ih
  | trailing v t ih =>
    intro ctx hT h
    simp only [inRd, Bool.and_eq_true, Bool.or_eq_true, Bool.not_eq_true'] at h
    simp only [shown, inRd, Bool.and_eq_true, Bool.or_eq_true, Bool.not_eq_true']
    refine ⟨ih ctx hT h.1, h.2.imp_right fun h2 => ?_⟩
    cases he : emptyDictSub (shown ctx v) with
    | false => rfl
    | true => rw [emptyDictSub_shown ctx hT v he] at h2; cases h2
  | none | ellipsis | bool => exact fun _ _ _ => rfl
  | ident parts => exact fun _ _ h => h
  | opq | timedelta => exact fun _ _ h => nomatch h
  | int cls val lit =>
    intro ctx _ h
    rw [shown]; exact ite_eq_of (inRd_phCall _ (phName_cls cls (Bool.and_eq_true_iff.mp h).1 nmInt (by decide))) h
  | str cls b s =>
    intro ctx _ h
    rw [shown]; exact ite_eq_of (inRd_phCall _ (phName_cls cls h _ (by split <;> decide))) h
  | path cls p =>
    intro ctx _ h
    rw [shown]; exact ite_eq_of (inRd_call1 h (inRd_phCall _ (by decide))) h
  | float cls kind lit n d =>
    intro ctx _ h
    have hc : clsOk cls = true := (Bool.and_eq_true_iff.mp h).1
    -- inf / nan one level above the cut: `float(str(...))`
    have hstr : inRd (.call (cls.getD (builtin nmFloat)) [phCall (builtin nmStr)] []) = true := by
      cases cls with
      | some q => exact inRd_call1 hc (inRd_phCall _ (by decide))
      | none => rfl
    rw [shown]
    exact ite_eq_of (inRd_phCall _ (phName_cls cls hc nmFloat (by decide))) (ite_eq_of h (ite_eq_of hstr h))
  | frozenset cls xs ih =>
    intro ctx hT h
    simp only [inRd, Bool.and_eq_true] at h
    have ihL := inRdL_shownL ih ctx.nested hT.nested h.2
    cases hz : ctx.depthZero with
    | true => simp only [shown, any_eq_dz, hz, if_true]; exact inRd_phCall _ (phName_cls cls h.1 nmFrozenset (by decide))
    | false =>
      rcases fits_or_cut xs.length ctx.maxSeqLen with hf | ⟨n, hm, hlt⟩
      · rw [shown_fset_fits hz _ _ hf, inRd, h.1, ihL]; rfl
      · rw [shown_fset_cut hz _ _ hm hlt]
        have hseq : inRd (shown ctx (.seq 0 none xs)) = true := by
          rw [shown_seq_eq hz]; exact inRd_cutSeq ctx _ rfl (by omega) ihL
        cases cls with
        | some q => exact inRd_call1 h.1 hseq
        | none =>
          -- `frozenset([...])` written as a call
          have hne : xs ≠ [] := fun e => by rw [e] at hlt; exact Nat.not_lt_zero _ hlt
          have : fsetLit (builtin nmFrozenset) [shown ctx (.seq 0 none xs)] [] = true :=
            isListLit_shown ctx hT hz (.seq 0 none xs) (isListLit_of_ne_nil hne)
          simp [inRd, inRdL, inRdK, this, hseq]
  | seq kind cls xs ih =>
    intro ctx hT h
    simp only [inRd, Bool.and_eq_true, decide_eq_true_eq] at h
    obtain ⟨⟨hc, hk⟩, hxs⟩ := h
    have hph := inRd_phCall _ (phName_cls cls hc _ (phName_seqName kind))
    have hnil : inRd (.seq kind cls []) = true := by simp [inRd, inRdL, hc, hk]
    rw [shown]
    exact ite_eq_of (ite_eq_of hnil (ite_eq_of hph hnil))
      (ite_eq_of (ite_eq_of (inRd_phWrap hc _ kind) hph) (inRd_cutSeq ctx _ hc hk (inRdL_shownL ih _ hT.nested hxs)))
  | dict cls kvs ih =>
    intro ctx hT h
    simp only [inRd, Bool.and_eq_true, inRdP_iff] at h
    rw [shown]
    exact ite_eq_of (inRd_phWrap h.1 nmDict 2) (inRd_cutDict ctx hT h.1 <| forall_shownPairs (P := (inRd · = true)) h.2
      fun p hp => ⟨(ih p hp).1 _ hT.nested, (ih p hp).2 _ hT.nested⟩)
  | call f args kwargs iha ihk =>
    intro ctx hT h
    have h0 := h
    simp only [inRd, Bool.and_eq_true] at h
    obtain ⟨⟨hn, ha⟩, hk⟩ := h
    cases hz : ctx.depthZero with
    | true => simp only [shown, any_eq_dz, hz, if_true]; exact inRd_phCall _ (phName_call hn)
    | false =>
      have ihA (c : Ctx) (hc : Trunc c) := inRdL_shownL iha c hc ha
      have ihK := inRdK_shownKw ihk ctx.nested hT.nested hk
      rw [shown_call_eq hz]
      simp only [Bool.or_eq_true] at hn
      rcases hn with (h1 | h1) | h1
      · exact ite_eq_of (by simp [inRd, h1, ihA ctx hT, inRdK]) (by simp [inRd, h1, ihA _ hT.nested, ihK])
      · -- `frozenset([...])` written as a call hugs its list, which stays a non-empty list literal
        obtain ⟨hf, rfl, x, rfl, hx⟩ := fsetLit_spec h1
        obtain ⟨y, ys, e⟩ := isListLit_spec _ hx
        rw [if_pos (by simp [hugCall, e, isHuggable])]
        have : fsetLit f (shownL ctx [x]) [] = true := by
          simp only [fsetLit, hf, beq_self_eq_true, List.isEmpty_nil, Bool.true_and, shownL, soleListLit]
          exact isListLit_shown ctx hT hz x hx
        simp [inRd, this, ihA ctx hT, inRdK]
      · -- `float(str(...))` does not hug, and its placeholder argument is shown as itself
        obtain ⟨_, rfl, rfl⟩ := floatPh_spec h1
        exact h0

theorem inRdL_shown : (xs : List PyVal) → (ctx : Ctx) → Trunc ctx → inRdL xs = true → inRdL (shownL ctx xs) = true :=
  fun _ => inRdL_shownL fun x _ => inRd_shown x

theorem inRdK_shown : (kws : List (Str × PyVal)) → (ctx : Ctx) → Trunc ctx → inRdK kws = true → inRdK (shownKw ctx kws) = true :=
  fun _ => inRdK_shownKw fun p _ => inRd_shown p.2

theorem inRdP_shown : (kvs : List (PyVal × PyVal)) → (ctx : Ctx) → Trunc ctx → inRdP kvs = true →
    ∀ p ∈ shownPairs ctx kvs, inRd p.2.1 = true ∧ inRd p.2.2 = true :=
  fun kvs _ hT h => forall_shownPairs (P := (inRd · = true)) ((inRdP_iff kvs).mp h)
    fun p _ => ⟨inRd_shown p.1 _ hT.nested, inRd_shown p.2 _ hT.nested⟩

/-! With no depth limit and no max_seq_len the shown value of a built-in literal value is again one (only the order of dict
entries may change, under sort_dict_keys). -/

theorem NoLimits.nested {ctx : Ctx} (h : NoLimits ctx) : NoLimits ctx.nested := ⟨nested_depthLeft h.1, h.2⟩

theorem NoLimits.zero {ctx : Ctx} (h : NoLimits ctx) : ctx.depthZero = false := (C11.unlimited_never_zero ctx h.1).1

theorem NoLimits.fits {ctx : Ctx} (h : NoLimits ctx) (len : Nat) : Fits len ctx.maxSeqLen := h.2 ▸ Fits.none len

theorem inC01L_shownL {xs : List PyVal} (ih : ∀ x ∈ xs, ∀ ctx, NoLimits ctx → inC01 x = true → inC01 (shown ctx x) = true)
    (ctx : Ctx) (hn : NoLimits ctx) (h : inC01L xs = true) : inC01L (shownL ctx xs) = true := by
  rw [inC01L_iff, shownL_eq_map]
  exact List.forall_mem_map.mpr fun x hx => ih x hx ctx hn ((inC01L_iff xs).mp h x hx)

theorem inC01_shown : (v : PyVal) → (ctx : Ctx) → NoLimits ctx → inC01 v = true → inC01 (shown ctx v) = true := by
  intro v
  induction v using PyVal.induct with
  | commented v t ih | trailing v t ih => exact ih
  | none | ellipsis | bool => exact fun _ _ _ => rfl
  | int | str => intro ctx hn h; simp only [shown, hn.zero]; exact h
  | float => intro ctx hn h; simp only [shown, hn.zero, hn.nested.zero, Bool.false_eq_true, if_false, ite_self]; exact h
  | frozenset cls xs ih =>
    intro ctx hn h
    simp only [inC01, Bool.and_eq_true] at h
    rw [shown_fset_fits hn.zero _ _ (hn.fits _), inC01, h.1, inC01L_shownL ih _ hn.nested h.2]; rfl
  | seq kind cls xs ih =>
    intro ctx hn h
    simp only [inC01, Bool.and_eq_true] at h
    rw [shown_seq_eq hn.zero, cutSeq_fits (hn.fits _), inC01, h.1.1, h.1.2, inC01L_shownL ih _ hn.nested h.2]; rfl
  | dict cls kvs ih =>
    intro ctx hn h
    simp only [inC01, Bool.and_eq_true, inC01P_iff] at h
    rw [shown_dict_eq hn.zero, cutDict, withTruncation_fits (hn.fits _), inC01, h.1, Bool.true_and, inC01P_iff]
    exact forall_shownEntries <| forall_shownPairs (P := (inC01 · = true)) h.2
      fun p hp => ⟨(ih p hp).1 _ hn.nested, (ih p hp).2 _ hn.nested⟩
  | _ => exact fun _ _ h => nomatch h

theorem inC01L_shown : (xs : List PyVal) → (ctx : Ctx) → NoLimits ctx → inC01L xs = true → inC01L (shownL ctx xs) = true :=
  fun _ => inC01L_shownL fun x _ => inC01_shown x

theorem inC01P_shown : (kvs : List (PyVal × PyVal)) → (ctx : Ctx) → NoLimits ctx → inC01P kvs = true →
    ∀ p ∈ shownPairs ctx kvs, inC01 p.2.1 = true ∧ inC01 p.2.2 = true :=
  fun kvs _ hn h => forall_shownPairs (P := (inC01 · = true)) ((inC01P_iff kvs).mp h)
    fun p _ => ⟨inC01_shown p.1 _ hn.nested, inC01_shown p.2 _ hn.nested⟩

end Tok
end PP
