/-
C05: the simulation argument.  While the (erased) predicate accepts the current stack with budget `left`, the
text the machine really emits before its next line break fits in `left`.
-/
import PP.Proofs.FitsE
namespace PP
open Doc

theorem sim (cfg : Cfg) (stk : List Triple) (col : Int) (left : Int)
    (hc : AllClassic stk) (h : fitsE left (strip stk) = true) :
    firstLine (run cfg stk col) ≤ left := by
  fun_induction run cfg stk col generalizing left
  all_goals have h0 := fitsE_nonneg h
  case case1 | case4 => simp only [firstLine]; omega    -- nothing left, hardline: the line ends here
  case case12 => simp [fitsE, h0] at h                 -- `always_break`: the predicate does not accept
  case case8 | case14 | case15 | case16 | case17 => simp at hc    -- a string, `fill`: not classic
  case case5 s ih =>
    -- a text: its length goes onto the line and off the budget
    have := ih _ (by simpa using hc) (by simpa [fitsE, h0] using h)
    simp only [firstLine]; omega
  case case7 ih =>
    -- `align`: the machine reads `alignAt (col - i) d`, the predicate has read the normalised `d`
    exact ih _ (forall_mem_top hc classic_alignAt) (by simpa [fitsE, h0, fitsE_alignAt (Int.not_lt.mp h0)] using h)
  case case10 ih => exact ih _ (forall_mem_top hc classic_pick) (by simpa [fitsE, h0] using h)
  case case13 ih =>
    -- the machine may lay the group out broken although the predicate read it flat: `fitsE_mono`
    simp only [allClassic_doc, Classic.group_iff] at hc
    refine ih _ (by simp [hc]) (fitsE_mono left _ _ ?_ (by simpa [fitsE, h0] using h))
    exact .cons (Mode.le_flat _) hc.1 (RelP.refl_strip hc.2)
  -- every other item: the predicate has taken, on the stripped stack, the step the machine takes; the marks of an
  -- annotation, which only the machine sees, have no width
  all_goals
    rename_i ih
    exact ih _ (by simpa using hc) (by simpa [fitsE, h0] using h)

end PP
