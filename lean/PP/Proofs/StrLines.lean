/-
C02: the splitter never loses, duplicates or reorders characters and never produces an empty piece.
(Termination is the definition's `termination_by`.)
The cases of `go`, in the order of its clauses: nothing pending and no part left, 1 with an empty line, 2 with text on it; the next
part 3 empty, 4 not; the pending part fills the line exactly and 5 starts the next line, 6 goes out with this one; it overshoots and
7 starts the next line, or is cut and 8 nothing, 9 something of it stays pending; 10 it joins the line.
-/
import PP.Model.PyStr
namespace PP
namespace PyStr

def partsJoin : List Part → PS
  | [] => []
  | (p, _) :: r => p ++ partsJoin r
def nextText : Option Part → PS
  | none => []
  | some (p, _) => p

theorem out_flatten (curr : List PS) (this : PS) :
    (if (if this.isEmpty then curr else curr ++ [this]).isEmpty then ([] : List PS)
      else [(if this.isEmpty then curr else curr ++ [this]).flatten]).flatten = curr.flatten ++ this := by
  cases this <;> cases curr <;> simp

theorem go_join (esc : PS → Nat) (maxLen rest next curr currLen h hp) :
    (go esc maxLen rest next curr currLen h hp).flatten = curr.flatten ++ nextText next ++ partsJoin rest := by
  fun_induction go esc maxLen rest next curr currLen h hp
  -- the pending part is cut at the end of the line: `take` goes out with the line, `drop` stays pending (if there is any)
  case case8 hC _ ih =>
    simp +zetaDelta only [List.flatten_append, ih, dite_eq_ite, out_flatten] at hC ⊢
    simp [nextText, List.take_of_length_le (List.drop_eq_nil_iff.mp (List.isEmpty_iff.mp hC))]
  case case9 ih =>
    simp +zetaDelta only [List.flatten_append, ih, dite_eq_ite, out_flatten]
    simp [nextText, ← List.append_assoc _ (List.drop _ _)]
  -- everywhere else whole parts move between `rest`, `next`, the line and the output
  all_goals simp_all [nextText, partsJoin]

/-- `pattern.split(s)` loses nothing: joining the alternating parts gives the string back -/
theorem splitAux_join (isSep : PChar → Bool) (s cur : PS) (inSep : Bool) :
    partsJoin (splitAux isSep s cur inSep) = cur.reverse ++ s := by
  induction s generalizing cur inSep with
  | nil => cases inSep <;> simp [splitAux, partsJoin]
  | cons c r ih =>
    simp only [splitAux]
    split
    · rw [ih]; simp
    · simp [partsJoin, ih]

theorem splitParts_join (isSep : PChar → Bool) (s : PS) : partsJoin (splitParts isSep s) = s := by
  simpa [splitParts] using splitAux_join isSep s [] false

theorem chooseParts_join (slash : Bool) (s : PS) : partsJoin (chooseParts slash s) = s := by
  unfold chooseParts
  split
  · exact splitParts_join _ s
  · simp only []
    split <;> exact splitParts_join _ s

theorem flatten_ne_nil {xs : List PS} (hne : xs ≠ []) (h : ∀ x ∈ xs, x ≠ []) : xs.flatten ≠ [] := by
  cases xs with
  | nil => exact absurd rfl hne
  | cons x r => simp [h x (by simp)]

theorem out_nonempty (curr : List PS) (this : PS) (hcurr : ∀ x ∈ curr, x ≠ []) :
    ∀ l ∈ (if (if this.isEmpty then curr else curr ++ [this]).isEmpty then ([] : List PS)
      else [(if this.isEmpty then curr else curr ++ [this]).flatten]), l ≠ [] := by
  cases this with
  | nil => cases curr with
    | nil => simp
    | cons x r => simp [hcurr x (by simp)]
  | cons c t => cases curr <;> simp

theorem go_nonempty (esc : PS → Nat) (maxLen rest next curr currLen h hp)
    (hcurr : ∀ x ∈ curr, x ≠ []) :
    ∀ l ∈ go esc maxLen rest next curr currLen h hp, l ≠ [] := by
  have hpne : ∀ {p : PS} {ws}, NextOk (some (p, ws)) → p ≠ [] := fun h => List.length_pos_iff.mp (h _ rfl)
  fun_induction go esc maxLen rest next curr currLen h hp
  case case1 => simp
  case case2 hc _ => simpa using flatten_ne_nil (by simpa using hc) hcurr
  case case3 ih => exact ih hcurr
  case case4 ih => exact ih hcurr
  case case5 hc _ ih | case7 hc _ ih =>
    exact List.forall_mem_cons.mpr ⟨flatten_ne_nil (by rintro rfl; simp at hc) hcurr, ih (by simp)⟩
  case case6 ih => exact List.forall_mem_cons.mpr ⟨by simp [hpne ‹_›], ih (by simp)⟩
  case case8 ih | case9 ih => exact List.forall_mem_append.mpr ⟨out_nonempty _ _ hcurr, ih (by simp)⟩
  case case10 ih => exact ih (List.forall_mem_append.mpr ⟨hcurr, by simpa using hpne ‹_›⟩)

theorem strToLines_join (isBytes slash : Bool) (maxLen : Nat) (hpos : 0 < maxLen) (q : Nat) (s : PS) :
    (strToLines isBytes slash maxLen hpos q s).flatten = s := by
  unfold strToLines
  split
  · cases s <;> simp
  · simpa [nextText, chooseParts_join] using
      go_join (escapedLen isBytes q) maxLen (chooseParts slash s) none [] 0 hpos (by intro q hq; cases hq)

theorem strToLines_nonempty (isBytes slash : Bool) (maxLen : Nat) (hpos : 0 < maxLen) (q : Nat) (s : PS) :
    ∀ l ∈ strToLines isBytes slash maxLen hpos q s, l ≠ [] := by
  unfold strToLines
  split
  · cases s <;> simp
  · exact go_nonempty _ _ _ _ _ _ _ _ (by simp)

theorem length_le_flatten {α} : ∀ {ls : List (List α)}, (∀ l ∈ ls, l ≠ []) → ls.length ≤ ls.flatten.length
  | [], _ => Nat.le_refl _
  | l :: r, h => by
    have := List.length_pos_iff.mpr (h l (by simp))
    have := length_le_flatten (ls := r) fun x hx => h x (by simp [hx])
    simp only [List.flatten_cons, List.length_append, List.length_cons]; omega

theorem strToLines_count (isBytes slash : Bool) (maxLen : Nat) (hpos : 0 < maxLen) (q : Nat) (s : PS) :
    (strToLines isBytes slash maxLen hpos q s).length ≤ s.length := by
  have := length_le_flatten (strToLines_nonempty isBytes slash maxLen hpos q s)
  rwa [strToLines_join] at this

end PyStr
end PP
