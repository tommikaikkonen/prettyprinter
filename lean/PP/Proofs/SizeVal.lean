/-
C12: the document the printers build for a value is linear in the value — number of nodes, lengths of the strings and of the
comment texts (`wt`).  With `C12.machine_quadratic` this bounds the layout work by a quadratic in the value.
-/
import PP.Proofs.SizeComb
import PP.Proofs.ToksVal
namespace PP
namespace Pr
open Doc PyStr Tok

def cwO : Option PS → Nat
  | some t => cw t
  | none => 0

theorem nonEmpty_cwO (c : Option PS) : cwO (nonEmpty? c) ≤ cwO c := by
  cases c with
  | none => exact Nat.le_refl _
  | some t => simp only [nonEmpty?]; split <;> simp [cwO]

/-- the value with its comment after it, or the comment above the value rendered again -/
theorem rsize_valueChoice (ind : Int) (c : PS) {vdoc rer x y x' y' : Doc} {m : Nat} (hr : rsize rer ≤ m) (hv : rsize vdoc ≤ m)
    (hx : rsize x ≤ 3) (hy : rsize y ≤ 1) (hx' : rsize x' ≤ 3) (hy' : rsize y' ≤ 1) :
    rsize (.group (.choice false (.cat [.nest ind (.cat [.hardline, commentdoc c, .hardline, rer, x]), y])
      (.cat [vdoc, x', .text [32, 32], commentdoc c, y']))) ≤ m + cw c + 13 := by
  have := rsize_commentdoc c
  rw [rsize_group]
  refine Nat.succ_le_succ (rsize_choice_le ?_ ?_) <;> simp only [rsz] <;> omega

theorem rsize_dictPart (ind : Int) (last : Bool) (kdoc vdoc : Doc) (kc vc : Option PS) (rer : Doc) {m : Nat}
    (hr : rsize rer ≤ m) (hv : rsize vdoc ≤ m) :
    rsize (dictPart ind last kdoc vdoc kc vc rer) ≤ rsize kdoc + cwO kc + cwO vc + m + 25 := by
  unfold dictPart
  cases vc with
  | none =>
    have := (rsize_optComma last).2; have := (rsize_optComma !last).1
    have := (rsize_optLine last).2; have := (rsize_optLine !last).1
    cases kc with
    | none => simp only [rsz, cwO]; omega
    | some k => have := rsize_commentdoc k; simp only [rsz, cwO]; omega
  | some c =>
    have hvc := rsize_valueChoice ind c hr hv (rsize_optComma !last).1 (rsize_optHardline !last).1
      (rsize_optComma last).2 (rsize_optHardline last).2
    cases kc with
    | none => simp only [rsz, cwO] at hvc ⊢; omega
    | some k => have := rsize_commentdoc k; simp only [rsz, cwO] at hvc ⊢; omega

/-- cost of one pair: key document and its comment, value document (or its re-rendering) and its comment -/
def pairCost (pd : PairDocs) : Nat :=
  celt pd.2.1 + cwC pd.2.2.1 + max (rsize pd.2.2.2) (rsize pd.2.2.1) + 25

theorem rsize_body (d : Doc) : rsize (body d) ≤ rsize d := by
  unfold body
  cases d using commented_cases with
  | nc h => rw [h]; exact Nat.le_refl _
  | cm c inner => rw [rsize_ann]; exact Nat.le_add_right ..

theorem cwO_cmt (d : Doc) : cwO (nonEmpty? (cmt? d)) ≤ cwC d :=
  Nat.le_trans (nonEmpty_cwO _) (by unfold cwC cmt?; cases commented? d <;> exact Nat.le_refl _)

theorem rsizes_dictPartsOf (ind : Int) (n : Nat) : ∀ (pds : List PairDocs) (idx : Nat),
    rsizes (dictPartsOf ind n pds idx).1 ≤ sumBy pairCost pds
  | [], _ => Nat.le_refl 0
  | pd :: r, idx => by
    have ih := rsizes_dictPartsOf ind n r (idx + 1)
    have := rsize_dictPart ind (idx + 1 == n) (body pd.2.1) (body pd.2.2.1) (nonEmpty? (cmt? pd.2.1))
      (nonEmpty? (cmt? pd.2.2.1)) pd.2.2.2 (Nat.le_max_left _ (rsize pd.2.2.1))
      (Nat.le_trans (rsize_body _) (Nat.le_max_right ..))
    have := rsize_body pd.2.1
    have := cwO_cmt pd.2.1
    have := cwO_cmt pd.2.2.1
    rw [dictPartsOf_step, rsizes, sumBy, pairCost, celt]
    omega

theorem natDigits_length (n : Nat) : (natDigits n).length ≤ n + 1 := by
  unfold natDigits
  simp only [List.length_map, String.length_toList]
  have : (toString n).length = n.repr.length := rfl
  rw [this, Nat.length_repr_le_iff (Nat.succ_pos n)]
  calc n < 10 ^ n := Nat.lt_pow_self (by decide)
    _ ≤ 10 ^ (n + 1) := Nat.pow_le_pow_right (by decide) (Nat.le_succ n)

theorem cw_truncationText (k : Nat) : cw (truncationText k) ≤ 9 * k + 220 := by
  have := natDigits_length k
  simp only [cw, truncationText, asciiPS, List.length_map, List.length_append, List.length_cons, List.length_nil]
  omega

theorem cwO_withTruncation (len : Nat) (msl : Option Nat) (tr : Option PS) :
    cwO (withTruncation len msl tr) ≤ cwO tr + 9 * len + 230 := by
  unfold withTruncation
  cases msl with
  | none => exact Nat.le_add_right_of_le (Nat.le_add_right ..)
  | some n =>
    have hT : cw (truncationText (len - n)) ≤ 9 * len + 220 :=
      Nat.le_trans (cw_truncationText _) (Nat.add_le_add_right (Nat.mul_le_mul_left 9 (Nat.sub_le ..)) 220)
    refine ite_le_of ?_ (Nat.le_add_right_of_le (Nat.le_add_right ..))
    cases tr with
    | none => exact Nat.le_trans hT (by simp +arith only [cwO])
    | some t =>
      refine ite_le_of (Nat.le_trans hT (by simp +arith only [cwO])) ?_
      simp only [cwO, cw, List.length_append, asciiPS, List.length_map, List.length_cons, List.length_nil] at hT ⊢
      omega

@[rsz] theorem rsize_ellipsisCall (fn : QualName) : rsize (ellipsisCall fn) = 13 := by simp only [ellipsisCall, rsz]

theorem rsize_orEllipsis (c : Prop) [Decidable c] (fn : QualName) {d : Doc} {k : Nat} (h : rsize d ≤ k) :
    rsize (if c then ellipsisCall fn else d) ≤ k + 13 :=
  ite_le_of (Nat.le_trans (Nat.le_of_eq (rsize_ellipsisCall fn)) (Nat.le_add_left ..)) (Nat.le_add_right_of_le h)

theorem rsize_emptyCall (ctx : Ctx) (fn : QualName) : rsize (emptyCall ctx fn) ≤ 13 := by
  unfold emptyCall; split <;> simp [rsz]

theorem rsize_brackets (kind : Nat) : rsize (brackets kind).1 = 3 ∧ rsize (brackets kind).2 = 3 :=
  ite_of (P := fun p : Doc × Doc => rsize p.1 = 3 ∧ rsize p.2 = 3) ⟨rfl, rfl⟩
    (ite_of (P := fun p : Doc × Doc => rsize p.1 = 3 ∧ rsize p.2 = 3) ⟨rfl, rfl⟩ ⟨rfl, rfl⟩)

theorem rsize_optCall (c : Prop) [Decidable c] (ind : Int) (fn : QualName) (a : Doc) (ha : commented? a = none) :
    rsize (if c then a else buildFncall ind (generalIdentifier fn) [a] [] true none) ≤ rsize a + 33 :=
  ite_le_of (Nat.le_add_right _ _) (rsize_call1 ind fn true ha (Nat.le_refl _))

/-- The truncation comment is one more element: at most `cwO tr + 9 * len + 230` (`cwO_withTruncation`) and the 14 around an element;
brackets and `sequence_of_docs` 18; the call of a class around the literal 33: 295 in all. -/
theorem rsize_seqDoc (ctx : Ctx) (kind : Nat) (cls : Option QualName) (len : Nat) (els : List Doc) (tr : Option PS) :
    rsize (seqDoc ctx kind cls len els tr) ≤ sumBy (fun d => celt d + 14) els + cwO tr + 9 * len + 330 := by
  obtain ⟨hl, hr⟩ := rsize_brackets kind
  unfold seqDoc
  generalize brackets kind = lr at hl hr
  generalize cls.getD (builtin (seqName kind)) = fn
  obtain ⟨l, r⟩ := lr
  dsimp only at hl hr ⊢
  refine ite_le_of (ite_le_of ?_ ?_) (ite_le_of (ite_le_of ?_ ?_) ?_)
  · simp +arith only [rsz, hl, hr]
  · exact Nat.le_trans (rsize_emptyCall ..) (by simp +arith only)
  · exact Nat.le_trans (rsize_optCall _ _ _ _ rfl) (by simp +arith only [rsz, hl, hr])
  · simp +arith only [rsz]
  · have htr := cwO_withTruncation len ctx.maxSeqLen tr
    have hels := ite_le_of (f := sumBy fun d => celt d + 14) (c := len == 1) (Nat.le_refl _)
      (sumBy_take _ ctx.maxSeqLen els)
    have hseq := fun els dangle fb => Nat.le_trans
      (rsize_optCall cls.isNone ctx.indent fn _ (nc_sequenceOfDocs ctx.indent l r els dangle fb))
      (Nat.add_le_add_right (rsize_sequenceOfDocs ..) 33)
    generalize withTruncation len ctx.maxSeqLen tr = tr' at htr
    cases tr' with
    | none => exact Nat.le_trans (hseq ..) (by simp only []; omega)
    | some t =>
      have := rsize_commentdoc t
      refine Nat.le_trans (hseq ..) ?_
      simp only [sumBy_append, sumBy, celt_nc (d := commentdoc t) rfl, cwO] at htr ⊢
      omega

/-- The entries shown cost at most `pairCost` of all entries (sorting permutes them, the limit drops some); the truncation comment at
most `cwO tr + 9 * len + 230` (`cwO_withTruncation`); braces and the `always_break` / `group` around them 17; the call of a class around
the dict 33: 280 in all, within the 330 the bound shares with `rsize_seqDoc`. -/
theorem rsize_dictDoc (ctx : Ctx) (cls : Option QualName) (pds : List PairDocs) (tr : Option PS) :
    rsize (dictDoc ctx cls pds tr) ≤ sumBy pairCost pds + cwO tr + 9 * pds.length + 330 := by
  unfold dictDoc
  generalize cls.getD (builtin nmDict) = fn
  refine ite_le_of (Nat.le_trans (rsize_optCall _ _ _ _ rfl) (by simp +arith only [rsz])) ?_
  have htr := cwO_withTruncation pds.length ctx.maxSeqLen tr
  have hsum : sumBy pairCost (takeOpt ctx.maxSeqLen (if ctx.sortKeys then sortPDs pds else pds)) ≤ sumBy pairCost pds :=
    Nat.le_trans (sumBy_take ..) (ite_le_of (Nat.le_of_eq (sumBy_perm _ (C01.sortK_perm pds))) (Nat.le_refl _))
  dsimp only
  generalize withTruncation pds.length ctx.maxSeqLen tr = tr' at htr
  generalize takeOpt ctx.maxSeqLen (if ctx.sortKeys then sortPDs pds else pds) = ps at hsum
  have hparts := rsizes_dictPartsOf ctx.indent ps.length ps 0
  generalize (_ || Option.isSome tr') = b
  generalize hD : (if b then Doc.ab _ else Doc.group _) = D
  have hD' : rsize D ≤ sumBy pairCost ps + cwO tr' + 17 := by
    rw [← hD]
    cases tr' with
    | none => simp only [rsz]; omega
    | some t => have := rsize_commentdoc t; simp only [rsz, cwO]; omega
  refine Nat.le_trans (ite_le_of (k := rsize D + 33) (Nat.le_add_right ..) (ite_le_of ?_ ?_)) (by omega)
  · exact Nat.le_trans (rsize_emptyCall ..) (by simp +arith only)
  · exact rsize_call1 _ _ _ (hD ▸ ite_eq_of rfl rfl) (Nat.le_refl _)

theorem rsize_intDoc (ctx : Ctx) (n : Int) : rsize (intDoc ctx n) ≤ 16 :=
  rsize_orEllipsis _ _ (Nat.le_of_eq (rsize_tk ..))

theorem celt_intDoc (ctx : Ctx) (n : Int) : celt (intDoc ctx n) ≤ 16 :=
  Nat.le_trans (Nat.le_of_eq (celt_nc (by unfold intDoc; exact ite_eq_of rfl rfl))) (rsize_intDoc ctx n)

theorem rsize_identDoc (parts : List (Nat × Str)) : rsize (identDoc parts) ≤ 3 * parts.length + 1 := by
  unfold identDoc
  split
  · simp [rsz]
  · rw [rsize_cat, rsizes_map_const _ 3 fun _ => rsize_tk ..]; exact Nat.le_refl _

theorem celt_daysDoc (ctx : Ctx) (days : Int) : celt (C07.daysDoc ctx days) ≤ 60 := by
  have h1 := rsize_intDoc ctx (days / 365)
  have h2 := rsize_intDoc ctx 365
  have h3 := rsize_intDoc ctx (days % 365)
  have hpre := rsizes_optional (days / 365 > 1) [intDoc ctx (days / 365), .text [32], MUL_OP, .text [32]]
  have hpost := rsizes_optional (days % 365 != 0) [.text [32], ADD_OP, .text [32], intDoc ctx (days % 365)]
  refine ite_le_of ?_ (Nat.le_trans (celt_intDoc ..) (by decide))
  rw [celt_nc rfl]
  simp only [rsz, MUL_OP, ADD_OP] at hpre hpost ⊢
  omega

theorem celt_tdKw (ctx : Ctx) (d s u : Int) : ∀ p ∈ tdKw ctx d s u, celt p.2 ≤ 60 := by
  rw [C07.tdKw_eq]
  intro p hp
  rcases List.mem_append.mp hp with h | h
  · revert h
    refine ite_of (P := fun l : List (Str × Doc) => p ∈ l → celt p.2 ≤ 60) (fun h => ?_) (fun h => nomatch h)
    rw [List.mem_singleton.mp h]; exact celt_daysDoc ..
  · obtain ⟨a, _, rfl⟩ := List.mem_map.mp h
    exact Nat.le_trans (celt_intDoc ..) (by decide)

theorem length_tdKw (ctx : Ctx) (d s u : Int) : (tdKw ctx d s u).length ≤ 6 := by
  rw [C07.tdKw_eq, List.length_append, List.length_map]
  exact Nat.add_le_add (ite_le_of (a := [_]) (b := []) (Nat.le_refl 1) (Nat.zero_le 1)) (List.length_filter_le ..)

theorem rsize_timedeltaDoc (ctx : Ctx) (d s u : Int) : rsize (timedeltaDoc ctx d s u) ≤ 523 := by
  rw [timedeltaDoc_eq]
  have hb := rsize_buildFncall ctx.indent (generalIdentifier nmTimedelta) [] (tdKw ctx d s u) false
  have hs := sumBy_le_length (fun p : Str × Doc => celt p.2 + 21) 81 (tdKw ctx d s u)
    fun p hp => Nat.add_le_add_right (celt_tdKw ctx d s u p hp) 21
  have := length_tdKw ctx d s u
  simp only [sumBy, rsize_gi] at hb
  refine rsize_orEllipsis _ _ (ite_le_of ?_ ?_) <;> simp only [NEG_OP, rsz] <;> omega

mutual
/-- nodes, string lengths and comment lengths of a value, with generous constants: 64 per character of a string is
`StrSpec.bound`; 14 / 21 / 30 per element / keyword argument / dict entry is what `sequence_of_docs`, `build_fncall` and `pretty_dict`
put around one (`sumBy_toDocs`, `sumBy_toKwDocs`, `pairCost`); the constant of a node covers its brackets, the call of a class name around
it (`rsize_call1`) and its depth placeholder -/
def wt : PyVal → Nat
  | .commented v t => wt v + cw t
  | .trailing v t => wt v + cw t
  | .none => 10
  | .ellipsis => 10
  | .bool _ => 10
  | .opaque _ => 10
  | .ident parts => 3 * parts.length + 10
  | .timedelta _ _ _ => 530
  | .path _ posix => 64 * posix.length + 200
  | .int _ _ _ => 60
  | .float _ _ _ _ _ => 600
  | .str _ _ s => 64 * s.length + 150
  | .frozenset _ xs => wtL xs + 9 * xs.length + 400
  | .seq _ _ xs => wtL xs + 9 * xs.length + 400
  | .dict _ kvs => wtP kvs + 9 * kvs.length + 400
  | .call _ args kwargs => wtL args + wtK kwargs + 100
def wtL : List PyVal → Nat
  | [] => 0
  | v :: r => wt v + 14 + wtL r
def wtK : List (Str × PyVal) → Nat
  | [] => 0
  | (_, v) :: r => wt v + 21 + wtK r
def wtP : List (PyVal × PyVal) → Nat
  | [] => 0
  | (k, v) :: r => wt k + wt v + 30 + wtP r
end

theorem cwC_toDocW (ctx : Ctx) (v : PyVal) (c tr : Option PS) :
    cwC (toDocW ctx v c tr) = cwO (nonEmpty? (commentOf v c)) := by
  rw [← cmt_toDocW v ctx c tr, cwC, cmt?]
  cases commented? (toDocW ctx v c tr) <;> rfl

/-- a printer that wraps its document in the comment collected so far: the wrapper and the comment are paid by `c` -/
theorem celt_of_wrapC {ctx : Ctx} {v : PyVal} {c tr : Option PS} {inner : Doc} {k : Nat} (hd : toDocW ctx v c tr = wrapC c inner)
    (hco : commentOf v c = c) (hi : rsize inner ≤ k) (hk : k + 2 ≤ wt v + cwO tr) :
    celt (toDocW ctx v c tr) ≤ wt v + cwO c + cwO tr := by
  have h1 := nonEmpty_cwO c
  have : rsize (wrapC c inner) ≤ rsize inner + 2 := by
    unfold wrapC; split
    · rw [rsize_ann]; exact Nat.le_refl _
    · exact Nat.le_add_right _ _
  rw [celt, cwC_toDocW, hd, hco]
  omega

theorem celt_keyDoc (ctx : Ctx) (k : PyVal) {d : Doc} (h : celt d ≤ wt k) : celt (keyDoc ctx k d) ≤ wt k := by
  unfold keyDoc
  split
  · rw [celt_nc rfl, rsize_pstr]; simp +arith only [wt]
  · exact h

/-- the value is rendered a second time only if it carries a comment; an absent second rendering is no larger than the first -/
theorem pairCost_le (k : PyVal) {kd vd rer : Doc} {a b : Nat} (c : Prop) [Decidable c] (hk : celt kd ≤ a) (hv : celt vd ≤ b)
    (hr : rsize rer + cwC vd ≤ b) : pairCost (k, kd, vd, if c then rer else .nil) ≤ a + b + 30 := by
  have hr' : rsize (if c then rer else .nil) + cwC vd ≤ b :=
    ite_of (P := fun d => rsize d + cwC vd ≤ b) hr (Nat.le_trans (Nat.add_le_add_right (rsize_pos vd) _) hv)
  have := Nat.max_le.mpr ⟨Nat.le_sub_of_add_le hr', Nat.le_sub_of_add_le hv⟩
  rw [pairCost]; dsimp only; omega

theorem length_dictDocs (ctx : Ctx) : ∀ kvs, (dictDocs ctx kvs).length = kvs.length
  | [] => rfl
  | _ :: r => congrArg Nat.succ (length_dictDocs ctx r)

mutual
/-- what a value costs its parent: its document and the comment the parent builds for it, paid by the value's weight and
by the comments `c`, `tr` collected on the way down -/
theorem toDocW_size : (v : PyVal) → (ctx : Ctx) → (c tr : Option PS) → celt (toDocW ctx v c tr) ≤ wt v + cwO c + cwO tr
  | .commented v t, ctx, c, tr => Nat.le_trans (toDocW_size v ctx (some t) tr) (by simp +arith only [wt, cwO])
  | .trailing v t, ctx, c, tr => Nat.le_trans (toDocW_size v ctx c (some t)) (by simp +arith only [wt, cwO])
  | .none, ctx, c, tr => celt_of_wrapC rfl rfl (Nat.le_of_eq (rsize_tk ..)) (by simp +arith only [wt])
  | .ellipsis, ctx, c, tr => celt_of_wrapC rfl rfl (Nat.le_of_eq rsize_ELLIPSIS) (by simp +arith only [wt])
  | .bool b, ctx, c, tr => celt_of_wrapC rfl rfl (Nat.le_of_eq (rsize_tk ..)) (by simp +arith only [wt])
  | .opaque r, ctx, c, tr => celt_of_wrapC rfl rfl (Nat.le_of_eq (rsize_text r)) (by simp +arith only [wt])
  | .ident parts, ctx, c, tr => celt_of_wrapC rfl rfl (rsize_identDoc parts) (by simp +arith only [wt])
  | .timedelta d s u, ctx, c, tr => celt_of_wrapC rfl rfl (rsize_timedeltaDoc ctx d s u) (by simp +arith only [wt])
  | .path cls posix, ctx, c, tr =>
      celt_of_wrapC rfl rfl (rsize_call1 _ _ _ (ite_eq_of rfl rfl) (rsize_orEllipsis _ _ (Nat.le_of_eq (rsize_pstr _))))
        (by simp +arith only [wt])
  | .int cls val lit, ctx, c, tr =>
      celt_of_wrapC rfl rfl
        (rsize_orEllipsis _ _ (rsize_clsCall _ _ rfl (Nat.le_of_eq (rsize_tk ..)))) (by simp +arith only [wt])
  | .float cls kind lit num den, ctx, c, tr => by
      -- `inf`, `-inf`, `nan`: a string of at most 4 characters (`rsize_pstr`), or its placeholder `str(...)`, in the call of the
      -- class, or the placeholder of the whole
      refine celt_of_wrapC (k := 64 * 4 + 66 + 13 + 33 + 13) rfl rfl
        (rsize_orEllipsis _ _ (ite_le_of (Nat.le_trans (rsize_clsCall _ _ rfl (Nat.le_of_eq (rsize_tk ..))) (by decide))
          (rsize_call1 _ _ _ (ite_eq_of rfl rfl) (rsize_orEllipsis _ _ ?_)))) (by simp +arith only [wt])
      rw [rsize_pstr]
      refine Nat.add_le_add_right (Nat.mul_le_mul_left 64 ?_) 66
      simp only [asciiPS, List.length_map]
      exact ite_le_of (by decide) (ite_le_of (by decide) (by decide))
  | .str cls isBytes s, ctx, c, tr =>
      celt_of_wrapC rfl rfl (rsize_orEllipsis _ _ (Nat.le_of_eq (rsize_pstr _))) (by simp +arith only [wt])
  | .frozenset cls xs, ctx, c, tr => by
      have ih := sumBy_toDocs xs (seqElCtx ctx xs.length)
      refine celt_of_wrapC rfl rfl (rsize_orEllipsis _ _ (ite_le_of ?_
        (rsize_call1 _ _ _ (nc_seqDoc ..) (rsize_seqDoc ..)))) (by simp only [wt, cwO]; omega)
      simp +arith only [rsz]
  | .call f args kwargs, ctx, c, tr => by
      have a1 := sumBy_toDocs args ctx
      have a2 := sumBy_toDocs args (ctx.nested.withStrategy 1)
      have a3 := sumBy_toKwDocs kwargs (ctx.nested.withStrategy 1)
      refine celt_of_wrapC rfl rfl (rsize_orEllipsis _ _ (k := wtL args + wtK kwargs + 19) (ite_le_of ?_ ?_))
        (by simp +arith only [wt])
      all_goals refine Nat.le_trans (rsize_buildFncall ..) ?_; simp only [sumBy, rsize_gi]; omega
  | .seq kind cls xs, ctx, c, tr => by
      have ih := sumBy_toDocs xs (seqElCtx ctx xs.length)
      have := nonEmpty_cwO tr
      exact celt_of_wrapC rfl rfl (rsize_seqDoc ..) (by simp only [wt]; omega)
  | .dict cls kvs, ctx, c, tr => by
      have ih := sumBy_dictDocs kvs ctx
      have := nonEmpty_cwO tr
      exact celt_of_wrapC rfl rfl (rsize_dictDoc ..) (by simp only [wt, length_dictDocs]; omega)

theorem sumBy_toDocs : (vs : List PyVal) → (ctx : Ctx) → sumBy (fun d => celt d + 14) (toDocs ctx vs) ≤ wtL vs
  | [], _ => Nat.le_refl 0
  | v :: r, ctx => Nat.add_le_add (Nat.add_le_add_right (toDocW_size v ctx none none) 14) (sumBy_toDocs r ctx)

theorem sumBy_toKwDocs : (kws : List (Str × PyVal)) → (ctx : Ctx) →
    sumBy (fun p => celt p.2 + 21) (toKwDocs ctx kws) ≤ wtK kws
  | [], _ => Nat.le_refl 0
  | (_, v) :: r, ctx => Nat.add_le_add (Nat.add_le_add_right (toDocW_size v ctx none none) 21) (sumBy_toKwDocs r ctx)

theorem sumBy_dictDocs : (kvs : List (PyVal × PyVal)) → (ctx : Ctx) → sumBy pairCost (dictDocs ctx kvs) ≤ wtP kvs
  | [], _ => Nat.le_refl 0
  | (k, v) :: r, ctx => by
      refine Nat.add_le_add (pairCost_le k _ (celt_keyDoc ctx k (toDocW_size k ctx.nested none none))
        (toDocW_size v (ctx.nested.withStrategy 2) none none) ?_) (sumBy_dictDocs r ctx)
      -- the second rendering carries the same comment as the first
      have hr : celt _ ≤ wt v := toDocW_size v (ctx.nested.withStrategy 0) none none
      rwa [celt, cwC_toDocW, ← cwC_toDocW (ctx.nested.withStrategy 2)] at hr
end

theorem toDocs_size : (vs : List PyVal) → (ctx : Ctx) → wfVals vs →
    sumBy (fun d => celt d + 14) (toDocs ctx vs) ≤ wtL vs :=
  fun vs ctx _ => sumBy_toDocs vs ctx

theorem toKwDocs_size : (kws : List (Str × PyVal)) → (ctx : Ctx) → wfKws kws →
    sumBy (fun p => celt p.2 + 21) (toKwDocs ctx kws) ≤ wtK kws :=
  fun kws ctx _ => sumBy_toKwDocs kws ctx

theorem dictDocs_size : (kvs : List (PyVal × PyVal)) → (ctx : Ctx) → wfPairs kvs →
    sumBy pairCost (dictDocs ctx kvs) ≤ wtP kvs ∧ (dictDocs ctx kvs).length = kvs.length :=
  fun kvs ctx _ => ⟨sumBy_dictDocs kvs ctx, length_dictDocs ctx kvs⟩

/-- the top-level comment wrapper is one more comment above or after -/
theorem rsize_topDoc (ctx : Ctx) (v : PyVal) : rsize (topDoc ctx v) ≤ wt v + 10 := by
  have hc : celt (toDocW ctx v none none) ≤ wt v := toDocW_size v ctx none none
  unfold topDoc toDoc
  simp only []
  generalize toDocW ctx v none none = d at hc ⊢
  cases d using commented_cases with
  | nc h => rw [celt_nc h] at hc; rw [h]; exact Nat.le_add_right_of_le hc
  | cm c inner =>
    rw [celt_comment] at hc
    refine Nat.le_trans (rsize_aboveOrAfter c [_] []) ?_
    simp only [rsz]; omega

end Pr
end PP
