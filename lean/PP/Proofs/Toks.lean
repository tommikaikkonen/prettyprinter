/-
Token invariance over the reference semantics: for a document whose choices carry the same code tokens on both
branches (`TInv`), *every* rendering in `Lay` — hence every layout the engine can pick, at any width — has the code tokens
`toksOf d`, up to `TEq`.
-/
import PP.Proofs.LayInd
import PP.Proofs.ValInd
import PP.Spec.DocTokens
namespace PP
namespace Tok
open Doc PyStr

mutual
theorem TInv.mono {P Q : StrSpec → Prop} (h : ∀ sp, P sp → Q sp) : ∀ (d : Doc), TInv P d → TInv Q d
  | .nil, _ | .text _, _ | .hardline, _ => trivial
  | .cat ds, hi | .fill ds, hi => TInvL.mono h ds hi
  | .nest _ d, hi | .group d, hi | .ab d, hi | .align d, hi | .ann (.comment _) d, hi | .ann (.other _) d, hi =>
      TInv.mono h d hi
  | .choice _ b f, hi => ⟨TInv.mono h b hi.1, TInv.mono h f hi.2.1, hi.2.2⟩
  | .ann (.tok t) d, hi => by
      simp only [TInv] at hi ⊢
      exact ite_imp id (ite_imp id (TInv.mono h d)) hi
  | .pstr sp, hi => h sp hi
theorem TInvL.mono {P Q : StrSpec → Prop} (h : ∀ sp, P sp → Q sp) : ∀ (ds : List Doc), TInvL P ds → TInvL Q ds
  | [], _ => trivial
  | d :: r, hi => ⟨TInv.mono h d hi.1, TInvL.mono h r hi.2⟩
end

/-- `o` read in normal mode ends in normal mode with tokens `ts` -/
def RunN (o : List SDoc) (ts : List CT) : Prop := runCT .normal o = (.normal, ts)

theorem RunN.nil : RunN [] [] := rfl
theorem RunN.append {o1 o2 t1 t2} (h1 : RunN o1 t1) (h2 : RunN o2 t2) : RunN (o1 ++ o2) (t1 ++ t2) := by
  unfold RunN at *; rw [runCT_append, h1, h2]

/-- how the token reader passes over a rendering `o` of `d`, from each kind of state: inside a comment region nothing is
a token; inside a literal region the text accumulates; outside, the tokens are those of the document -/
def Reads (P : StrSpec → Prop) (d : Doc) (o : List SDoc) : Prop :=
  (∀ k, runCT (.comment k) o = (.comment k, [])) ∧
  (Plain d = true → ∀ k acc, runCT (.str k acc) o = (.str k (acc ++ textOf d), [])) ∧
  (TInv P d → ∃ ts, RunN o ts ∧ TEq ts (toksOf d))

variable {E : StrSpec → Doc → Prop} {P : StrSpec → Prop}

/-! A list of documents is read as `.cat ds`: what `Reads` says of it is, by definition, the same statement about `PlainL`,
`textOfL`, `TInvL` and `toksOfL` of `ds`. -/

theorem Reads.nil : Reads P (.cat []) [] := ⟨fun _ => rfl, fun _ _ _ => by simp [runCT, textOf, textOfL], fun _ => ⟨[], rfl, .refl _⟩⟩

theorem Reads.cons {d ds o1 o2} (h1 : Reads P d o1) (h2 : Reads P (.cat ds) o2) : Reads P (.cat (d :: ds)) (o1 ++ o2) := by
  refine ⟨fun k => by rw [runCT_append, h1.1 k, h2.1 k]; rfl, fun hp k acc => ?_, fun hi => ?_⟩
  · obtain ⟨hp1, hp2⟩ := Bool.and_eq_true_iff.mp hp
    rw [runCT_append, h1.2.1 hp1 k acc, h2.2.1 hp2 k, List.append_assoc]; rfl
  · obtain ⟨t1, a1, a2⟩ := h1.2.2 hi.1
    obtain ⟨t2, b1, b2⟩ := h2.2.2 hi.2
    exact ⟨t1 ++ t2, a1.append b1, .app a2 b2⟩

/-- a constructor that the reader does not see (`nest`, `group`, `always_break`, `align`; a choice, taken either way) -/
theorem Reads.through {d d' : Doc} {o} (h : Reads P d o) (hp : Plain d' = false) (hi : TInv P d' → TInv P d)
    (ht : TInv P d' → TEq (toksOf d) (toksOf d')) : Reads P d' o := by
  refine ⟨h.1, fun hp' => (by rw [hp] at hp'; cases hp'), fun hi' => ?_⟩
  obtain ⟨ts, r1, r2⟩ := h.2.2 (hi hi')
  exact ⟨ts, r1, .trans r2 (ht hi')⟩

theorem Reads.ann {d o} (a : Ann) (h : Reads P d o) : Reads P (.ann a d) (.push a :: o ++ [.pop a]) := by
  refine ⟨fun k => ?_, fun hp k acc => ?_, fun hi => ?_⟩
  · rw [runCT_ann]; simp only [step]; rw [h.1 (k + 1)]; simp
  · rw [runCT_ann]; simp only [step]; rw [h.2.1 hp (k + 1) acc]; simp [textOf]
  · cases a with
    | tok t =>
      simp only [TInv, toksOf] at hi ⊢
      -- a comment token, a string token, or another one: the three region lemmas of Spec/Tokens.lean
      by_cases h1 : (t == Pr.tComment) = true
      · exact ⟨[], runCT_comment_region t h1 _ (h.1 0), by simp [h1]; exact .refl _⟩
      by_cases h2 : (t == Pr.tStr) = true
      · simp only [h1, h2, if_true] at hi ⊢
        exact ⟨_, runCT_str_region t h1 h2 _ _ (by simpa using h.2.1 hi 0 []), .refl _⟩
      · simp only [h1, h2] at hi ⊢
        obtain ⟨ts, r1, r2⟩ := h.2.2 hi
        exact ⟨ts, runCT_other_region _ (by intro t' e; cases e; exact ⟨h1, h2⟩) _ _ r1, r2⟩
    | comment _ | other _ =>
      obtain ⟨ts, r1, r2⟩ := h.2.2 hi
      exact ⟨ts, runCT_other_region _ (by intro t' e; cases e) _ _ r1, r2⟩

/-- `hP` asks of what a string contextual evaluates to that it holds no further contextual (`TInv (fun _ => False)`), as is
true of `evalStr` (`evalStr_tokens`); the `pstr` case uses the weaker `TInv P` -/
theorem lay_reads_all (hP : ∀ sp, P sp → ∀ d, E sp d → TInv (fun _ => False) d ∧ TEq (toksOf d) (strCanon sp)) :
    (∀ {d i m c o c'}, Lay E d i m c o c' → Reads P d o) ∧
    (∀ {ds i m c o c'}, LayL E ds i m c o c' → Reads P (.cat ds) o) ∧
    (∀ {ds i c o c'}, LayF E ds i c o c' → Reads P (.cat ds) o) :=
  Lay.induct
    (nil := ⟨fun _ => rfl, fun _ _ _ => by simp [runCT, textOf], fun _ => ⟨[], rfl, .refl _⟩⟩)
    (textE := ⟨fun _ => rfl, fun _ _ _ => by simp [runCT, textOf], fun _ => ⟨[], rfl, by simp [toksOf, isBlank]; exact .refl _⟩⟩)
    (text := ⟨fun _ => rfl, fun _ _ _ => by simp [runCT, step, textOf],
      fun _ => ⟨_, by simp [RunN, runCT, step]; rfl, by simp only [toksOf]; exact .refl _⟩⟩)
    (hardline := ⟨fun _ => rfl, fun hp => by simp [Plain] at hp, fun _ => ⟨[], rfl, .refl _⟩⟩)
    (cat := fun _ _ _ ih => ih)
    (nest := fun _ _ _ ih => ih.through rfl id fun _ => .refl _)
    (group := fun _ _ ih => ih.through rfl id fun _ => .refl _)
    (choiceF := fun _ ih => ih.through rfl (fun hi => hi.2.1) fun hi => .symm hi.2.2)
    (choiceB := fun _ ih => ih.through rfl (fun hi => hi.1) fun _ => .refl _)
    (ab := fun _ ih => ih.through rfl id fun _ => .refl _)
    (fill := fun _ ih => ⟨ih.1, fun hp => by simp [Plain] at hp, ih.2.2⟩)
    (ann := fun _ ih => ih.ann _)
    (align := fun _ ih => ih.through rfl id fun _ => .refl _)
    (pstr := fun he _ ih =>
      ih.through rfl (fun hi => TInv.mono (fun _ hf => hf.elim) _ (hP _ hi _ he).1) fun hi => (hP _ hi _ he).2)
    (lnil := .nil) (lcons := fun _ _ ih1 ih2 => .cons ih1 ih2)
    (fnil := .nil) (fcons := fun _ _ _ ih1 ih2 => .cons ih1 ih2)

theorem layL_comment : ∀ {ds i m c o c'}, LayL E ds i m c o c' → ∀ k, runCT (.comment k) o = (.comment k, []) :=
  fun h => ((lay_reads_all (P := fun _ => False) fun _ hf => hf.elim).2.1 h).1
theorem layF_comment : ∀ {ds i c o c'}, LayF E ds i c o c' → ∀ k, runCT (.comment k) o = (.comment k, []) :=
  fun h => ((lay_reads_all (P := fun _ => False) fun _ hf => hf.elim).2.2 h).1
theorem layL_str : ∀ {ds i m c o c'}, LayL E ds i m c o c' → PlainL ds = true →
    ∀ k acc, runCT (.str k acc) o = (.str k (acc ++ textOfL ds), []) :=
  fun h => ((lay_reads_all (P := fun _ => False) fun _ hf => hf.elim).2.1 h).2.1

theorem lay_normal (hP : ∀ sp, P sp → ∀ d, E sp d → TInv (fun _ => False) d ∧ TEq (toksOf d) (strCanon sp)) :
    ∀ {d i m c o c'}, Lay E d i m c o c' → TInv P d → ∃ ts, RunN o ts ∧ TEq ts (toksOf d) :=
  fun h => ((lay_reads_all hP).1 h).2.2
theorem layL_normal (hP : ∀ sp, P sp → ∀ d, E sp d → TInv (fun _ => False) d ∧ TEq (toksOf d) (strCanon sp)) :
    ∀ {ds i m c o c'}, LayL E ds i m c o c' → TInvL P ds → ∃ ts, RunN o ts ∧ TEq ts (toksOfL ds) :=
  fun h => ((lay_reads_all hP).2.1 h).2.2
theorem layF_normal (hP : ∀ sp, P sp → ∀ d, E sp d → TInv (fun _ => False) d ∧ TEq (toksOf d) (strCanon sp)) :
    ∀ {ds i c o c'}, LayF E ds i c o c' → TInvL P ds → ∃ ts, RunN o ts ∧ TEq ts (toksOfL ds) :=
  fun h => ((lay_reads_all hP).2.2 h).2.2

/-- **every rendering of a layout-invariant document has the document's code tokens** -/
theorem ctoks_lay (hP : ∀ sp, P sp → ∀ d, E sp d → TInv (fun _ => False) d ∧ TEq (toksOf d) (strCanon sp))
    {d i m c o c'} (h : Lay E d i m c o c') (hi : TInv P d) : TEq (ctoks o) (toksOf d) := by
  obtain ⟨ts, r1, r2⟩ := lay_normal hP h hi
  unfold ctoks; unfold RunN at r1; rw [r1]; exact r2

end Tok
end PP
