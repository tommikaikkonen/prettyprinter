/-
The guards of the value printers (depth test, truncation comment, hug test), each by the fact through which proofs use it.  Three
are clauses of C10 / C11 / C17 as well as lemmas of the token proofs and carry the property's name; the clauses that nothing else
uses are in Props/Values.lean.
-/
import PP.Model.Values
import PP.Proofs.ValInd
namespace PP
open Pr Doc PyStr

namespace C10
/-- the truncation comment states exactly `len - N` -/
theorem truncation_text (len n : Nat) (h : n < len) :
    withTruncation len (some n) none = some (truncationText (len - n)) := by
  simp [withTruncation, h]
end C10

namespace Tok

/-- a container of `len` elements is within the limit `m` -/
abbrev Fits (len : Nat) (m : Option Nat) : Prop := ∀ n, m = some n → len ≤ n

theorem Fits.zero (m : Option Nat) : Fits 0 m := fun _ _ => Nat.zero_le _
theorem Fits.none (len : Nat) : Fits len none := nofun

theorem fits_or_cut (len : Nat) (m : Option Nat) : Fits len m ∨ ∃ n, m = some n ∧ n < len := by
  cases m with
  | none => exact .inl (.none len)
  | some n => exact (Nat.lt_or_ge n len).elim (fun h => .inr ⟨n, rfl, h⟩) (fun h => .inl fun _ e => Option.some.inj e ▸ h)

theorem withTruncation_fits {len : Nat} {m : Option Nat} (h : Fits len m) (t : Option PS) :
    withTruncation len m t = t := by
  cases m with
  | none => rfl
  | some n => simp [withTruncation, Nat.not_lt.mpr (h n rfl)]

theorem takeOpt_fits {α} {len : Nat} {m : Option Nat} (h : Fits len m) (xs : List α) (hl : xs.length = len) :
    takeOpt m xs = xs := by
  cases m with
  | none => rfl
  | some n => exact List.take_of_length_le (hl ▸ h n rfl)

theorem truncationText_ne (k : Nat) : truncationText k ≠ [] := fun h => nomatch h

theorem withTruncation_cut {len n : Nat} (h : n < len) (t : Option PS) : (withTruncation len (some n) t).isSome = true := by
  simp only [withTruncation, if_pos (show len > n from h)]
  split
  · exact ite_eq_of rfl rfl
  · rfl

/-- the printers write the depth test in two ways -/
@[simp] theorem any_eq_dz (ctx : Ctx) : ctx.depthLeft.any (· == 0) = ctx.depthZero := by
  cases h : ctx.depthLeft <;> simp [Ctx.depthZero, h]

end Tok

namespace C11
/-- with unlimited depth no printer ever takes the placeholder branch -/
theorem unlimited_never_zero (ctx : Ctx) (h : ctx.depthLeft = none) : ctx.depthZero = false ∧ ctx.nested.depthLeft = none := by
  simp [Ctx.depthZero, Ctx.nested, h]
end C11

namespace C17
/-- the sole argument is hugged only if it is exactly a list, dict or tuple (after unwrapping comments) and there
are no keyword arguments -/
theorem hug_only_exact (args : List PyVal) (kwargs : List (Str × PyVal)) (h : hugCall args kwargs = true) :
    ∃ a, args = [a] ∧ kwargs = [] ∧ isHuggable (stripComments a) = true := by
  unfold hugCall at h
  split at h
  · exact ⟨_, rfl, rfl, h⟩
  · cases h
end C17

end PP
