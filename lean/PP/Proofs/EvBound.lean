/-
The string evaluator of `pretty_str` only ever builds documents of size linear in the string:
`Cfg.EvBounded { ev := evalStr, .. }`.  This discharges the one hypothesis of `C04.sound` for the configuration that
`pformat` actually uses, so engine soundness applies to `pformatM` unconditionally.
-/
import PP.Proofs.Sound
import PP.Proofs.Escape
import PP.Proofs.EvalStr
import PP.Proofs.SizeComb
namespace PP
namespace Pr
open Doc PyStr

theorem reprBody_len (isBytes : Bool) (q : Nat) (s : PS) : (reprBody isBytes q s).length ≤ 10 * s.length := by
  rw [reprBody_eq]
  induction s with
  | nil => simp
  | cons c r ih =>
    have : (charOf (restOf isBytes) q c).length ≤ 10 := by
      unfold charOf; split
      · simp
      · exact (restOf_img isBytes c).length_le
    simp only [List.flatMap_cons, List.length_append, List.length_cons]
    omega

theorem escapeSplit_len (fuel : Nat) : ∀ (s cur : Str),
    (escapeSplit s fuel cur).length ≤ s.length + (if cur.isEmpty then 0 else 1) := by
  intro s cur
  fun_induction escapeSplit s fuel cur
  case case1 | case2 => simp
  case case3 h => simp [h]
  case case4 ih => simp only [List.isEmpty_cons, Bool.false_eq_true, if_false, List.length_cons] at ih ⊢; omega
  case case5 n h ih =>
    have : n ≠ 0 := by simpa using h
    simp only [List.isEmpty_nil, if_true, List.length_drop, List.length_cons, List.length_append, apply_ite List.length,
      List.length_nil, Nat.zero_add] at ih ⊢
    omega

theorem rsize_highlight (s : Str) : rsize (highlightEscapes s) ≤ 1 + 3 * s.length := by
  unfold highlightEscapes
  have := escapeSplit_len (s.length + 1) s []
  simp only [List.isEmpty_nil, if_true, Nat.add_zero] at this
  refine ite_le_of (Nat.le_add_right _ _) ?_
  rw [rsize_cat, rsizes_map_const _ 3 fun _ => rsize_tk ..]
  omega

theorem rsize_singleLine (isBytes : Bool) (q : Nat) (hq : q = SQ ∨ q = DQ) (s : PS) :
    rsize (singleLineStr isBytes q s) ≤ 30 * s.length + 10 := by
  have h1 := rsize_highlight (escapeForQuote isBytes q s)
  have h2 := reprBody_len isBytes q s
  rw [← escapeForQuote_eq isBytes q hq s] at h2
  have h3 : rsize (if isBytes then tk tAffix [98] else .text []) ≤ 3 := ite_le_of (Nat.le_refl _) (by decide)
  unfold singleLineStr
  simp only [rsz]
  omega

theorem rsizes_pieces (sp : StrSpec) (ls : List PS) :
    rsizes (pieces sp ls) ≤ 30 * ls.flatten.length + 11 * ls.length := by
  rw [← sumBy_flatten, pieces]
  exact rsizes_intersperse_map _ .hardline _ (fun l => Nat.succ_le_succ (rsize_singleLine _ _ (determineQuote_is_quote sp.s) l)) ls

theorem rsize_evalStr (sp : StrSpec) (i c w rw : Int) : rsize (evalStr sp i c w rw) ≤ sp.bound := by
  obtain ⟨body, hb, e⟩ := evalStr_shape sp i c w rw
  refine e ▸ Nat.le_trans (rsize_clsCall _ _ hb.not_commented (Nat.le_refl _)) ?_
  -- 30 per character, 11 per piece, and no more pieces than characters
  have hp : ∀ ls, Cut sp.s ls → rsizes (pieces sp ls) ≤ 41 * sp.s.length := fun ls h => by
    have := h.join ▸ rsizes_pieces sp ls
    have := h.count
    omega
  unfold StrSpec.bound
  cases hb with
  | flat => have := rsize_singleLine sp.isBytes _ (determineQuote_is_quote sp.s) sp.s; omega
  | plain ls h => have := hp ls h; simp only [rsz]; omega
  | hang ls h => have := hp ls h; simp only [rsz]; omega
  | block ls parens h => have := hp ls h; cases parens <;> simp only [rsz, if_true, Bool.false_eq_true, if_false] <;> omega

/-- **the hypothesis of `C04.sound` holds for the configuration `pformat` uses** -/
theorem evalStr_bounded (w rw : Int) (smart : Bool) : Cfg.EvBounded { w := w, rw := rw, smart := smart, ev := evalStr } := by
  intro sp i c
  exact Nat.le_trans (size_normalize _) (rsize_evalStr sp i c w rw)

end Pr
end PP
