/-
Closure of the reference semantics under normalisation:  `Lay (normalize d) ⊆ Lay d`.
This is what lets one soundness proof cover the top-level `normalize_doc`, every evaluation of a contextual
document and every lazily normalised `FlatChoice` branch.
-/
import PP.Proofs.LayInd
namespace PP
open Doc

variable {E : StrSpec → Doc → Prop}

theorem LayL.append : ∀ {xs ys : List Doc} {i m c o1 c1 o2 c2}, LayL E xs i m c o1 c1 → LayL E ys i m c1 o2 c2 →
    LayL E (xs ++ ys) i m c (o1 ++ o2) c2 := by
  intro xs ys i m c o1 c1 o2 c2 h1 h2
  induction xs generalizing c o1 with
  | nil => cases h1; exact h2
  | cons x xs ih => cases h1 with | cons hx hxs => simpa [List.append_assoc] using LayL.cons hx (ih hxs)

theorem LayL.split {xs ys : List Doc} {i m c o c2} (h : LayL E (xs ++ ys) i m c o c2) :
    ∃ o1 o2 c1, o = o1 ++ o2 ∧ LayL E xs i m c o1 c1 ∧ LayL E ys i m c1 o2 c2 := by
  induction xs generalizing c o with
  | nil => exact ⟨[], o, c, rfl, .nil, h⟩
  | cons x xs ih =>
    cases h with | cons hx hrest =>
    obtain ⟨o1, o2, c1, rfl, h1, h2⟩ := ih hrest
    exact ⟨_, _, _, (List.append_assoc ..).symm, .cons hx h1, h2⟩

theorem LayL.single {x : Doc} {i m c o c'} (h : LayL E [x] i m c o c') : Lay E x i m c o c' := by
  cases h with | cons hx hn => cases hn; simpa using hx

theorem Lay.inv_ab {d : Doc} {i m c o c'} (h : Lay E (.ab d) i m c o c') : Lay E d i .brk c o c' := by
  cases h; assumption

theorem Lay.inv_fill {ds i m c o c'} (h : Lay E (.fill ds) i m c o c') : LayF E ds i c o c' := by
  cases h; assumption

@[simp] theorem isAb_ab (d : Doc) : (Doc.ab d).isAb = true := rfl
@[simp] theorem unAb_ab (d : Doc) : (Doc.ab d).unAb = d := rfl

theorem isAb_wrapAb (p : Bool) (n : Doc) : (wrapAb p n).isAb = (p || n.isAb) := by cases p <;> rfl
theorem forces_wrapAb (p : Bool) (n : Doc) : forces (wrapAb p n) = (p || forces n) := by cases p <;> rfl

theorem forcesAny_append (xs ys : List Doc) : forcesAny (xs ++ ys) = (forcesAny xs || forcesAny ys) := by
  induction xs with
  | nil => simp [forcesAny]
  | cons x xs ih => simp [forcesAny, ih, Bool.or_assoc]

theorem not_isAb_of_clean {d : Doc} (h : forces d = false) : d.isAb = false :=
  Bool.eq_false_iff.mpr fun hd => by rw [eq_ab_of_isAb hd, forces] at h; cases h

theorem anyAb_fillKeep (ds : List Doc) : anyAb (fillKeep ds) = anyAb ds := by
  induction ds with
  | nil => rfl
  | cons d ds ih =>
    simp only [fillKeep]; split
    · rename_i h; simp [eq_nil_of_isNil h, anyAb, isAb, ih]
    · simp [anyAb, ih]

theorem catStep_flag (n : Doc) (acc : List Doc × Bool) : (catStep n acc).2 = (acc.2 || n.isAb) := by
  unfold catStep; split <;> simp_all [isAb]

theorem catStep_ne_nil {n : Doc} {acc : List Doc × Bool} (h : n.isAb = true ∨ acc.1 ≠ []) : (catStep n acc).1 ≠ [] := by
  unfold catStep; split <;> simp_all [isAb]

theorem forcesAny_catStep {n : Doc} (h : n.isAb = false) (acc : List Doc × Bool) :
    forcesAny (catStep n acc).1 = (forcesAny acc.1 || forces n) := by
  unfold catStep; split <;> simp_all [isAb, forces, forcesAny_append, forcesAny]

/-- as a `simp` lemma this decides `isAb` of a constructor and leaves `isAb` of anything else alone, which unfolding
`isAb` would turn into a `match` -/
theorem isAb_eq_false {n : Doc} (h : ∀ x, n ≠ .ab x) : n.isAb = false :=
  Bool.eq_false_iff.mpr fun hn => h _ (eq_ab_of_isAb hn)

mutual
theorem isAb_forces_normalize : (d : Doc) → (normalize d).isAb = forces d ∧ forces (normalize d) = forces d
  | .nil | .hardline | .choice .. | .align _ | .pstr _ | .ann .. => by simp [normalize, isAb, forces]
  | .text s => by by_cases hs : s = [] <;> simp [normalize, isAb, forces, hs]
  | .fill ds => by
      simp only [normalize]
      split
      · rename_i h; simp [isAb, forces, ← anyAb_fillKeep ds, h, anyAb]
      · simp [isAb_wrapAb, forces_wrapAb, isAb_eq_false, forces, anyAb_fillKeep]
  | .ab d => by
      obtain ⟨h1, h2⟩ := isAb_forces_normalize d
      by_cases hab : (normalize d).isAb = true <;> simp [normalize, forces, hab, h2, ← h1]
  | .nest _ d | .group d => by
      obtain ⟨h1, h2⟩ := isAb_forces_normalize d
      -- the normalised child is an `AlwaysBreak` and is hoisted (`h1`: `d` forces), or the result is no `AlwaysBreak` (`h1`: it does not)
      by_cases hab : (normalize d).isAb = true <;>
        simp [normalize, isAb_eq_false, forces, apply_ite isAb, apply_ite forces, hab, h2, ← h1]
  | .cat ds => by
      obtain ⟨hf, hc, hne⟩ := normCat_inv ds ([], false)
      simp only [normalize, forces]
      generalize normCat ds ([], false) = r at hf hc hne
      obtain ⟨xs, p⟩ := r
      simp only [Bool.false_or] at hf
      rw [← hf] at hc ⊢
      cases p
      · -- no child forces a break: the pieces are clean, so a single one is not an `AlwaysBreak`
        have hc : forcesAny xs = false := hc rfl
        match xs, hc with
        | [], _ => simp [isAb, forces]
        | [x], hc =>
          have hx : forces x = false := by simpa [forcesAny] using hc
          simp [wrapAb, not_isAb_of_clean hx, hx]
        | _ :: _ :: _, hc => simp [wrapAb, isAb, forces, hc]
      · -- some child does: there is a piece to wrap
        match xs, hne (by simp) rfl with
        | [x], _ | _ :: _ :: _, _ => simp [wrapAb, forces]
theorem normCat_inv : (ds : List Doc) → (acc : List Doc × Bool) →
    (normCat ds acc).2 = (acc.2 || forcesAny ds) ∧
    (forcesAny ds = false → forcesAny (normCat ds acc).1 = forcesAny acc.1) ∧
    ((acc.2 = true → acc.1 ≠ []) → ((normCat ds acc).2 = true → (normCat ds acc).1 ≠ []))
  | [], acc => by simp [normCat, forcesAny]
  | d :: ds, acc => by
      obtain ⟨h1, h2⟩ := isAb_forces_normalize d
      obtain ⟨b1, b2, b3⟩ := normCat_inv ds (catStep (normalize d) acc)
      simp only [normCat, forcesAny]
      refine ⟨by rw [b1, catStep_flag, h1, Bool.or_assoc], fun hf => ?_, fun hacc => b3 fun hp => catStep_ne_nil ?_⟩
      · simp only [Bool.or_eq_false_iff] at hf
        rw [b2 hf.2, forcesAny_catStep (h1 ▸ hf.1), h2, hf.1, Bool.or_false]
      · rw [catStep_flag, Bool.or_eq_true] at hp
        exact hp.symm.imp_right hacc
end

theorem isAb_normalize (d : Doc) : (normalize d).isAb = forces d := (isAb_forces_normalize d).1
theorem forces_normalize (d : Doc) : forces (normalize d) = forces d := (isAb_forces_normalize d).2

theorem layF_of_fillKeep {ds : List Doc} {i c o c'} (h : LayF E (fillKeep ds) i c o c') : LayF E ds i c o c' := by
  induction ds generalizing c o with
  | nil => exact h
  | cons d ds ih =>
    simp only [fillKeep] at h
    split at h
    · rename_i hn
      rw [eq_nil_of_isNil hn]
      exact .cons (o1 := []) .brk .nil (ih h)
    · cases h with | cons m' hd hl => exact .cons m' hd (ih hl)

theorem catStep_lay (n : Doc) (acc : List Doc × Bool) {i mm c o c'}
    (hflag : n.isAb = true → mm = .brk)
    (h : LayL E (catStep n acc).1 i mm c o c') :
    ∃ o1 o2 c1, o = o1 ++ o2 ∧ LayL E acc.1 i mm c o1 c1 ∧ Lay E n i mm c1 o2 c' := by
  unfold catStep at h
  split at h
  · obtain ⟨o1, o2, c1, rfl, h1, h2⟩ := h.split
    exact ⟨o1, o2, c1, rfl, h1, h2.lay⟩
  · obtain ⟨o1, o2, c1, rfl, h1, h2⟩ := h.split
    obtain rfl := hflag rfl
    exact ⟨o1, o2, c1, rfl, h1, .ab h2.single⟩
  · exact ⟨o, [], c', by simp, h, .nil⟩
  · obtain ⟨o1, o2, c1, rfl, h1, h2⟩ := h.split
    exact ⟨o1, o2, c1, rfl, h1, h2.single⟩

theorem lay_of_isAb {n : Doc} {i m c o c'} (hab : n.isAb = true) (h : Lay E n.unAb i .brk c o c') :
    Lay E n i m c o c' := by
  rw [eq_ab_of_isAb hab]; exact .ab h

theorem lay_brk_of_isAb {n : Doc} {i m c o c'} (hab : n.isAb = true) (h : Lay E n i m c o c') :
    Lay E n i .brk c o c' := by
  rw [eq_ab_of_isAb hab] at h ⊢; exact .ab h.inv_ab

theorem Mode.orBrk.eq {m m' : Mode} {f : Bool} (h : m.orBrk f m') (hf : f = true → m = .brk) : m' = m :=
  h.elim id fun ⟨h1, h2⟩ => h2.trans (hf h1).symm

theorem lay_wrapAb {p : Bool} {n : Doc} {i m c o c'} (h : Lay E (wrapAb p n) i m c o c') :
    Lay E n i (if p then .brk else m) c o c' := by
  cases p
  · exact h
  · exact h.inv_ab

/-- the `match` is the last step of `Concat.normalize`; without the flag the pieces are clean (`hc`), so the concat around
them cannot have hoisted a break -/
theorem layL_of_pieces {xs : List Doc} {p : Bool} {i m c o c'}
    (h : Lay E (match xs with | [] => .nil | [x] => wrapAb p x | xs => wrapAb p (.cat xs)) i m c o c')
    (hc : p = false → forcesAny xs = false) : LayL E xs i (if p then .brk else m) c o c' := by
  match xs, h, hc with
  | [], h, _ => cases h; exact .nil
  | [x], h, _ => simpa using LayL.cons (lay_wrapAb h) .nil
  | x :: y :: zs, h, hc =>
    cases lay_wrapAb h with | cat m' hm hl =>
    refine hm.eq (fun hx => ?_) ▸ hl
    cases p
    · rw [forces, hc rfl] at hx; cases hx
    · rfl

mutual
theorem lay_normalize : (d : Doc) → ∀ {i m c o c'}, Lay E (normalize d) i m c o c' → Lay E d i m c o c'
  | .nil, _, _, _, _, _, h | .hardline, _, _, _, _, _, h | .align _, _, _, _, _, _, h | .pstr _, _, _, _, _, _, h => by
      simpa [normalize] using h
  | .text s, _, _, _, _, _, h => by
      by_cases hs : s = []
      · subst hs; simp only [normalize, if_true] at h; cases h; exact .textE
      · simpa [normalize, hs] using h
  | .choice l b f, i, m, c, o, c', h => by
      simp only [normalize] at h
      cases h with
      | choiceF h => exact .choiceF h
      | choiceB h => exact .choiceB h
  | .fill ds, i, m, c, o, c', h => by
      simp only [normalize] at h
      split at h
      · rename_i hk
        cases h
        exact .fill (layF_of_fillKeep (hk ▸ .nil))
      · exact .fill (layF_of_fillKeep (lay_wrapAb h).inv_fill)
  | .ann a d, i, m, c, o, c', h => by
      simp only [normalize] at h
      cases h with | ann hd => exact .ann (lay_normalize d hd)
  | .ab d, i, m, c, o, c', h => by
      simp only [normalize] at h
      split at h
      · rename_i hab
        exact .ab (lay_normalize d (lay_brk_of_isAb hab h))
      · exact .ab (lay_normalize d h.inv_ab)
  | .nest j d, i, m, c, o, c', h => by
      simp only [normalize] at h
      split at h
      · rename_i hab
        cases h.inv_ab with | nest m' hm hd =>
        cases hm.eq fun _ => rfl
        exact .nest .brk (.inr ⟨by rw [forces, ← isAb_normalize, hab], rfl⟩) (lay_normalize d (lay_of_isAb hab hd))
      · cases h with | nest m' hm hd =>
        exact .nest m' (by simpa only [forces, forces_normalize] using hm) (lay_normalize d hd)
  | .group d, i, m, c, o, c', h => by
      simp only [normalize] at h
      split at h
      · rename_i hab
        exact .group .brk (lay_normalize d (lay_brk_of_isAb hab h))
      · split at h
        · rename_i hnil
          cases h
          exact .group .flat (lay_normalize d (eq_nil_of_isNil hnil ▸ .nil))
        · cases h with | group m' h => exact .group m' (lay_normalize d h)
  | .cat ds, i, m, c, o, c', h => by
      obtain ⟨hf, hc, -⟩ := normCat_inv ds ([], false)
      simp only [Bool.false_or] at hf
      simp only [normalize] at h
      have key := layL_of_pieces h fun hp => hc (hf ▸ hp)
      obtain ⟨o1, o2, c1, rfl, h1, h2⟩ := normCat_lay ds ([], false) (fun hp => by rw [hp]; rfl) key
      cases h1
      refine .cat _ ?_ h2
      rw [forces, ← hf]
      cases (normCat ds ([], false)).2
      · exact .inl rfl
      · exact .inr ⟨rfl, rfl⟩
theorem normCat_lay : (ds : List Doc) → (acc : List Doc × Bool) → ∀ {i mm c o c'},
    ((normCat ds acc).2 = true → mm = .brk) → LayL E (normCat ds acc).1 i mm c o c' →
    ∃ o1 o2 c1, o = o1 ++ o2 ∧ LayL E acc.1 i mm c o1 c1 ∧ LayL E ds i mm c1 o2 c'
  | [], acc, _, _, c, o, c', _, h => ⟨o, [], c', by simp, by simpa [normCat] using h, .nil⟩
  | d :: ds, acc, i, mm, c, o, c', hflag, h => by
      simp only [normCat] at h hflag
      obtain ⟨oa, ob, ca, rfl, ha, hb⟩ := normCat_lay ds (catStep (normalize d) acc) hflag h
      have hfl : (normalize d).isAb = true → mm = .brk := fun hab =>
        hflag (by simp [(normCat_inv ds _).1, catStep_flag, hab])
      obtain ⟨o1, o2, c1, rfl, h1, h2⟩ := catStep_lay (normalize d) acc hfl ha
      exact ⟨o1, o2 ++ ob, c1, by simp [List.append_assoc], h1, .cons (lay_normalize d h2) hb⟩
end

end PP
