/-
C02: `escape_str_for_quote(q, s)` — repr, then (if repr chose the other quote) two `str.replace` chains — is exactly
repr's escaping carried out with quote `q`:  `escapeForQuote isBytes q s = reprBody isBytes q s`.
Between the two chains no quote is escaped, only the backslash.  That body is `s.flatMap (charOf rest BS)`, and it differs from
the body for a quote `q` only at the characters `q`, written `q` in the one and `\q` in the other; no other image contains `q`.
So the first chain (`\q` to `q`) leads from the body for the old quote to it, the second (`q` to `\q`) from it to the body for
the new quote.
-/
import PP.Proofs.ReprChar
namespace PP
namespace PyStr

theorem replaceAll_single (a : Nat) (rep : Str) : ∀ s : Str,
    replaceAll [a] rep s = s.flatMap fun c => if c = a then rep else [c]
  | [] => by simp [replaceAll]
  | c :: r => by
    have ih := replaceAll_single a rep r
    rw [replaceAll]
    by_cases hc : c = a
    · subst hc; simp [List.isPrefixOf, ih]
    · have : ¬ a = c := fun e => hc e.symm
      simp [List.isPrefixOf, hc, this, ih]

theorem replaceAll_absent (a : Nat) (p rep : Str) : ∀ (s : Str), a ∉ s → replaceAll (a :: p) rep s = s
  | [], _ => by simp [replaceAll]
  | c :: r, h => by
    have hc : ¬ a = c := fun e => h (by simp [e])
    rw [replaceAll, replaceAll_absent a p rep r (fun hm => h (by simp [hm]))]
    simp [List.isPrefixOf, hc]

theorem rep2_hit (q : Nat) (rep r : Str) :
    replaceAll [BS, q] rep (BS :: q :: r) = rep ++ replaceAll [BS, q] rep r := by
  rw [replaceAll]; simp [List.isPrefixOf]

theorem rep2_step (q : Nat) (rep : Str) (c : Nat) (r : Str) (h : r.head? ≠ some q) :
    replaceAll [BS, q] rep (c :: r) = c :: replaceAll [BS, q] rep r := by
  rw [replaceAll, if_neg]
  cases r with
  | nil => simp [List.isPrefixOf]
  | cons y r => simp [List.isPrefixOf, show q ≠ y by simpa [eq_comm] using h]

theorem rep2_absent (q : Nat) (rep : Str) : ∀ (t r : Str), q ∉ t → r.head? ≠ some q →
    replaceAll [BS, q] rep (t ++ r) = t ++ replaceAll [BS, q] rep r
  | [], r, _, _ => rfl
  | c :: t, r, h, hr => by
    have hd : (t ++ r).head? ≠ some q := by
      cases t with
      | nil => exact hr
      | cons y _ => simpa using fun e => h (by simp [e])
    rw [List.cons_append, rep2_step q rep c _ hd, rep2_absent q rep t r (fun hm => h (by simp [hm])) hr,
      List.cons_append]

/-! ### the two replace chains, image by image (`mid`: the body between them, `charOf rest BS`) -/

section
variable {B : Nat} {rest : PChar → Str} (hr : ∀ c : PChar, RestImg B c.cp (rest c)) {q : Nat} (hq : q = SQ ∨ q = DQ)
include hr hq

theorem mid_quote {c : PChar} (h : c.cp = q) : charOf rest BS c = [q] := by
  rw [charOf_rest (h ▸ ne_BS hq) (h ▸ ne_BS hq), (hr c).quote (h ▸ hq), h]

theorem not_mem_mid {c : PChar} (h : c.cp ≠ q) : q ∉ charOf rest BS c := by
  by_cases hb : c.cp = BS
  · rw [charOf_esc (.inl hb), hb]; simp [ne_BS hq]
  · rw [charOf_rest hb hb]; exact (hr c).not_mem hq h

theorem body_head : ∀ s : PS, (s.flatMap (charOf rest q)).head? ≠ some q
  | [] => by simp
  | c :: r => by
    rw [List.flatMap_cons]
    by_cases h : c.cp = q ∨ c.cp = BS
    · rw [charOf_esc h]; simpa using (ne_BS hq).symm
    · rw [not_or] at h
      rw [charOf_rest h.1 h.2]
      exact (hr c).head_ne (ne_BS hq) h.1 _

theorem unquote_char (c : PChar) (tl : Str) (ht : tl.head? ≠ some q) :
    replaceAll [BS, q] [q] (charOf rest q c ++ tl) = charOf rest BS c ++ replaceAll [BS, q] [q] tl := by
  by_cases h : c.cp = q
  · rw [charOf_esc (.inl h), mid_quote hr hq h, h]; exact rep2_hit q [q] tl
  · rw [charOf_of_ne h]; exact rep2_absent q [q] _ tl (not_mem_mid hr hq h) ht

theorem unquote_body : ∀ s : PS, replaceAll [BS, q] [q] (s.flatMap (charOf rest q)) = s.flatMap (charOf rest BS)
  | [] => by simp [replaceAll]
  | c :: r => by
    rw [List.flatMap_cons, unquote_char hr hq c _ (body_head hr hq r), unquote_body r, List.flatMap_cons]

theorem quote_char (c : PChar) : replaceAll [q] [BS, q] (charOf rest BS c) = charOf rest q c := by
  by_cases h : c.cp = q
  · rw [charOf_esc (.inl h), mid_quote hr hq h, h]; simp [replaceAll_single]
  · rw [charOf_of_ne h]; exact replaceAll_absent q [] _ _ (not_mem_mid hr hq h)

theorem quote_body (s : PS) : replaceAll [q] [BS, q] (s.flatMap (charOf rest BS)) = s.flatMap (charOf rest q) := by
  rw [replaceAll_single, List.flatMap_assoc]
  simp only [← replaceAll_single, quote_char hr hq]

end

theorem reprQuote_is_quote (s : PS) : reprQuote s = SQ ∨ reprQuote s = DQ := by
  unfold reprQuote; split <;> simp

theorem determineQuote_is_quote (s : PS) : determineQuote s = SQ ∨ determineQuote s = DQ := by
  unfold determineQuote; repeat' split
  all_goals simp

/-- **escape_str_for_quote(q, s) is repr's escaping with quote q** — for `str` and `bytes`, every value and both
quotes: whichever quote `repr` picked, the two `replace` chains turn its output into the escaping for `q` -/
theorem escapeForQuote_eq (isBytes : Bool) (q : Nat) (hq : q = SQ ∨ q = DQ) (s : PS) :
    escapeForQuote isBytes q s = reprBody isBytes q s := by
  have hrq := reprQuote_is_quote s
  have hr := restOf_img isBytes
  unfold escapeForQuote
  simp only [reprBody_eq]
  by_cases he : reprQuote s = q
  · simp [he]
  · rw [if_neg (by simpa using he)]
    rcases hq with rfl | rfl
    · rw [if_pos (by decide), hrq.resolve_left he, unquote_body hr (.inr rfl), quote_body hr (.inl rfl)]
    · rw [if_neg (by decide), hrq.resolve_right he, unquote_body hr (.inl rfl), quote_body hr (.inr rfl)]

end PyStr
end PP
