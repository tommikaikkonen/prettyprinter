/-
Tokens of printed values: `canonW ctx v tr` (Spec/Canon.lean) — a function of the value, the depth / max_seq_len / sort settings and the
trailing comment, but *not* of the indent, the width or the ribbon — is the token sequence of every document the printers
build for `v` (`toksOf (toDocW ctx v c tr) = canonW ctx.norm v tr`), and those documents are layout-invariant (`TInv`).
The two are proved together (`Has P d t`): `canonW` is written in the shape of the printers, so one pass over a printer, by the
rules `Has.ite` / `Has.depth` / `Has.call1` or by `simp`, settles both.
-/
import PP.Proofs.ToksStr
import PP.Proofs.TdKw
import PP.Proofs.SortK
import PP.Proofs.Guards
import PP.Proofs.ValInd
namespace PP
namespace Tok
open Doc PyStr Pr

attribute [local simp] toksOf toksOfL TInv TInvL

theorem withTruncation_noLimit' (len : Nat) (t : Option PS) : withTruncation len none t = t := rfl

theorem nested_depthLeft {ctx : Ctx} (h : ctx.depthLeft = none) : ctx.nested.depthLeft = none :=
  (C11.unlimited_never_zero ctx h).2

theorem Free.nested {ctx : Ctx} (h : Free ctx) : Free ctx.nested := ⟨nested_depthLeft h.1, h.2.1, h.2.2⟩

theorem Free.nested_eq {ctx : Ctx} (h : Free ctx) : ctx.nested = ctx := by
  cases ctx; cases h.1; rfl

theorem Free.depthZero {ctx : Ctx} (h : Free ctx) : ctx.depthZero = false := (C11.unlimited_never_zero ctx h.1).1
theorem Free.any {ctx : Ctx} (h : Free ctx) : ctx.depthLeft.any (· == 0) = false := (any_eq_dz ctx).trans h.depthZero

@[simp] theorem toksOf_ellipsisCall (fn : QualName) : toksOf (ellipsisCall fn) = ellToks fn := by
  simp [ellipsisCall, ellToks]
@[simp] theorem tinv_ellipsisCall (P) (fn : QualName) : TInv P (ellipsisCall fn) := by
  simp [ellipsisCall]
@[simp] theorem nc_ellipsisCall (fn : QualName) : commented? (ellipsisCall fn) = none := rfl
@[simp] theorem toksOf_emptyCall (ctx : Ctx) (fn : QualName) : toksOf (emptyCall ctx fn) = emptyCallToks ctx fn := by
  simp [emptyCall, emptyCallToks, apply_ite toksOf]
@[simp] theorem tinv_emptyCall (P) (ctx : Ctx) (fn : QualName) : TInv P (emptyCall ctx fn) := by
  simp [emptyCall, apply_ite (TInv P)]
@[simp] theorem nc_emptyCall (ctx : Ctx) (fn : QualName) : commented? (emptyCall ctx fn) = none := by
  simp [emptyCall, apply_ite commented?]

@[simp] theorem toksOf_brackets_1 (kind : Nat) : toksOf (brackets kind).1 = [(bracketToks kind).1] := by
  simp [brackets, bracketToks, apply_ite Prod.fst, apply_ite toksOf, apply_ite (List.cons · [])]
@[simp] theorem toksOf_brackets_2 (kind : Nat) : toksOf (brackets kind).2 = [(bracketToks kind).2] := by
  simp [brackets, bracketToks, apply_ite Prod.snd, apply_ite toksOf, apply_ite (List.cons · [])]
@[simp] theorem tinv_brackets_1 (P) (kind : Nat) : TInv P (brackets kind).1 := by
  simp [brackets, apply_ite Prod.fst, apply_ite (TInv P)]
@[simp] theorem tinv_brackets_2 (P) (kind : Nat) : TInv P (brackets kind).2 := by
  simp [brackets, apply_ite Prod.snd, apply_ite (TInv P)]

/-- `d` is layout-invariant and carries the tokens `t` -/
abbrev Has (P : StrSpec → Prop) (d : Doc) (t : List CT) : Prop := TInv P d ∧ toksOf d = t

theorem Has.tk {P} (t : Nat) (s : Str) : Has P (tk t s) (tkToks t s) := ⟨tinv_tk P t s, toksOf_tk t s⟩

theorem Has.ite {P} {c : Prop} [Decidable c] {a b : Doc} {ta tb : List CT} (ha : Has P a ta) (hb : Has P b tb) :
    Has P (if c then a else b) (if c then ta else tb) := by
  split <;> assumption

theorem Has.depth {P} {z : Prop} [Decidable z] {fn : QualName} {d : Doc} {t : List CT} (h : Has P d t) :
    Has P (if z then ellipsisCall fn else d) (if z then ellToks fn else t) :=
  .ite ⟨tinv_ellipsisCall P fn, toksOf_ellipsisCall fn⟩ h

theorem Has.call1 {P} {ind : Int} {fn : QualName} {a : Doc} {hug : Bool} {t : List CT} (h : Has P a t) :
    Has P (buildFncall ind (generalIdentifier fn) [a] [] hug none) (callToks fn [t]) :=
  ⟨by simp [h.1], by rw [toksOf_call1, h.2]⟩

/-- Above the depth cut `seqCanon` sees the context in the comment `withTruncation len N tr` and the cut `takeOpt N els` only.
The comma before the closing bracket: for a one-element tuple (`kind = 1`) or a trailing comment. -/
theorem seqCanon_above {ctx : Ctx} (hz : ctx.depthZero = false) (h0 : ctx.maxSeqLen ≠ some 0) (kind : Nat) (cls : Option QualName)
    {len : Nat} {els : List (List CT)} (hl : els.length = len) (hne : (len == 0) = false) (tr : Option PS) :
    seqCanon ctx kind cls len els tr =
      wrapToks cls ((bracketToks kind).1 :: (seqToks (takeOpt ctx.maxSeqLen els)
        ((withTruncation len ctx.maxSeqLen tr).isSome || (kind == 1 && len == 1)) ++ [(bracketToks kind).2])) := by
  have he : els ≠ [] := fun e => by subst e hl; cases hne
  -- `seqCanon` leaves a single element uncut, which as N ≠ 0 is no exception
  have h1 : (if len == 1 then els else takeOpt ctx.maxSeqLen els) = takeOpt ctx.maxSeqLen els := by
    split
    · next h => exact (takeOpt_fits (fun n e => eq_of_beq h ▸ Nat.pos_of_ne_zero fun e0 => h0 (e0 ▸ e)) els hl).symm
    · rfl
  obtain ⟨t, r, e⟩ := List.exists_cons_of_ne_nil (takeOpt_ne_nil h0 he)
  simp only [seqCanon, hne, hz, h1, Bool.false_eq_true, if_false]
  rw [e]
  cases withTruncation len ctx.maxSeqLen tr with
  | some c => cases cls <;> simp [wrapToks, seqToks_snoc_empty]
  | none => cases cls <;> simp [wrapToks]

theorem seqCanon_free {ctx : Ctx} (hf : Free ctx) (kind : Nat) (cls : Option QualName) {len : Nat} {els : List (List CT)}
    (hl : els.length = len) (hne : (len == 0) = false) (tr : Option PS) :
    seqCanon ctx kind cls len els tr =
      wrapToks cls ((bracketToks kind).1 :: (seqToks els (tr.isSome || (kind == 1 && len == 1)) ++ [(bracketToks kind).2])) := by
  rw [seqCanon_above hf.depthZero (hf.2.1 ▸ nofun) kind cls hl hne, hf.2.1]; rfl

theorem has_seqDoc {P} (ctx : Ctx) (kind : Nat) (cls : Option QualName) (len : Nat) (els : List Doc) (tr : Option PS)
    (hels : TInvL P els) : Has P (seqDoc ctx kind cls len els tr) (seqCanon ctx kind cls len (els.map toksOf) tr) := by
  unfold seqDoc seqCanon
  cases withTruncation len ctx.maxSeqLen tr <;>
    simp [Has, apply_ite (TInv P), apply_ite (TInvL P), apply_ite toksOf, apply_ite (List.map toksOf), takeOpt_map, hels,
      takeOpt_of_iff (tinvL_iff P) _ hels]

@[simp] theorem nc_seqDoc (ctx : Ctx) (kind : Nat) (cls : Option QualName) (len : Nat) (els : List Doc) (tr : Option PS) :
    commented? (seqDoc ctx kind cls len els tr) = none := by
  unfold seqDoc
  cases withTruncation len ctx.maxSeqLen tr <;> simp [apply_ite commented?]

/-- (`hr`: the value rendered a second time, which stands in for it in the broken layout when it carries a comment) -/
theorem has_dictPart {P} (ind : Int) (last : Bool) (kdoc vdoc : Doc) (kc vc : Option PS) (rer : Doc)
    (hk : TInv P kdoc) (hv : TInv P vdoc) (hr : vc.isSome → Has P rer (toksOf vdoc)) :
    Has P (dictPart ind last kdoc vdoc kc vc rer)
      (toksOf kdoc ++ [COLON_T] ++ toksOf vdoc ++ if last then [] else [COMMA_T]) := by
  unfold dictPart
  cases kc <;> cases vc <;> cases last <;> simp [Has, hk, hv, hr]

/-- the documents of a dict entry read as tokens, in the shape of `canonPairs`; the key itself stays: sorting looks at it -/
def pdToks (pd : PairDocs) : PyVal × List CT × List CT := (pd.1, toksOf pd.2.1, toksOf pd.2.2.1)

/-- the re-rendered value (used when the value carries a comment) has the tokens of the value document and is invariant -/
def RerOk (P : StrSpec → Prop) (pd : PairDocs) : Prop :=
  ∀ c d, commented? pd.2.2.1 = some (c, d) → TInv P pd.2.2.2 ∧ toksOf pd.2.2.2 = toksOf pd.2.2.1

theorem RerOk.of_cmt {P} {pd : PairDocs} (h : RerOk P pd) (hc : (nonEmpty? (cmt? pd.2.2.1)).isSome) :
    Has P pd.2.2.2 (toksOf (body pd.2.2.1)) := by
  unfold cmt? at hc
  cases hcm : commented? pd.2.2.1 with
  | none => simp [hcm, nonEmpty?] at hc
  | some p => rw [toksOf_body]; exact h p.1 p.2 hcm

theorem hasL_dictPartsOf (P) (ind : Int) (n : Nat) : ∀ (pds : List PairDocs) (idx : Nat), idx + pds.length = n →
    (∀ pd ∈ pds, TInv P pd.2.1 ∧ TInv P pd.2.2.1 ∧ RerOk P pd) →
    TInvL P (dictPartsOf ind n pds idx).1 ∧ toksOfL (dictPartsOf ind n pds idx).1 = dictPairToks (pds.map pdToks)
  | [], _, _, _ => by simp [dictPartsOf, dictPairToks]
  | pd :: r, idx, hn, hr => by
    obtain ⟨hk, hv, hro⟩ := hr pd (by simp)
    have ih := hasL_dictPartsOf P ind n r (idx + 1) (by simp at hn ⊢; omega) (fun x hx => hr x (by simp [hx]))
    have hp := has_dictPart ind r.isEmpty _ _ (nonEmpty? (cmt? pd.2.1)) _ _ ((tinv_body P _).mpr hk) ((tinv_body P _).mpr hv)
      hro.of_cmt
    rw [dictPartsOf_step, last_eq hn]
    refine ⟨⟨hp.1, ih.1⟩, ?_⟩
    rw [toksOfL, hp.2, ih.2]
    cases r <;> simp [dictPairToks, pdToks]

theorem dictPartsOf_isEmpty (ind : Int) (n : Nat) (pds : List PairDocs) (idx : Nat) :
    (dictPartsOf ind n pds idx).1.isEmpty = pds.isEmpty := by
  cases pds <;> simp [dictPartsOf]

theorem dictCanon_free {ctx : Ctx} (hf : Free ctx) (cls : Option QualName) (pairs : List (PyVal × List CT × List CT)) (tr : Option PS) :
    dictCanon ctx cls pairs tr =
      match cls with
      | none => [CT.code [123]] ++ dictPairToks pairs ++ [.code [125]]
      | some q => if pairs.isEmpty && tr.isNone then emptyCallToks ctx q
                  else callToks q [[CT.code [123]] ++ dictPairToks pairs ++ [.code [125]]] := by
  cases cls <;> simp [dictCanon, hf.depthZero, hf.2.1, hf.2.2, withTruncation_noLimit', takeOpt]

theorem has_dictDoc {P} (ctx : Ctx) (cls : Option QualName) (pds : List PairDocs) (tr : Option PS)
    (hr : ∀ pd ∈ pds, TInv P pd.2.1 ∧ TInv P pd.2.2.1 ∧ RerOk P pd) :
    Has P (dictDoc ctx cls pds tr) (dictCanon ctx cls (pds.map pdToks) tr) := by
  have hmap : takeOpt ctx.maxSeqLen (if ctx.sortKeys = true then sortK (pds.map pdToks) else pds.map pdToks) =
      (takeOpt ctx.maxSeqLen (if ctx.sortKeys = true then sortPDs pds else pds)).map pdToks :=
    shownOrder_map pdToks fun _ _ _ => rfl
  have hmem : ∀ pd ∈ takeOpt ctx.maxSeqLen (if ctx.sortKeys = true then sortPDs pds else pds),
      TInv P pd.2.1 ∧ TInv P pd.2.2.1 ∧ RerOk P pd := fun pd h => hr pd (mem_shownOrder h)
  unfold dictDoc dictCanon
  rw [List.length_map, hmap]
  generalize takeOpt ctx.maxSeqLen (if ctx.sortKeys = true then sortPDs pds else pds) = ps at hmem
  have hparts := hasL_dictPartsOf P ctx.indent ps.length ps 0 (by simp) hmem
  cases withTruncation pds.length ctx.maxSeqLen tr <;>
    simp [Has, apply_ite (TInv P), apply_ite toksOf, hparts.1, hparts.2, dictPartsOf_isEmpty]

@[simp] theorem nc_dictDoc (ctx : Ctx) (cls : Option QualName) (pds : List PairDocs) (tr : Option PS) :
    commented? (dictDoc ctx cls pds tr) = none := by
  unfold dictDoc
  simp [apply_ite commented?]

theorem toksOf_identDoc (parts : List (Nat × Str)) : toksOf (identDoc parts) = identToks parts := by
  unfold identDoc
  split
  · simp [identToks]
  · simp [toksOfL_eq_flatMap, List.flatMap_map, identToks]

theorem tinv_identDoc (P) (parts : List (Nat × Str)) : TInv P (identDoc parts) := by
  unfold identDoc
  split
  · simp
  · exact (tinvL_iff P _).mpr (List.forall_mem_map.mpr fun _ _ => tinv_tk P _ _)

@[simp] theorem nc_identDoc (parts : List (Nat × Str)) : commented? (identDoc parts) = none := by
  unfold identDoc; split <;> rfl

@[simp] theorem toksOf_wrapC (c : Option PS) (d : Doc) : toksOf (wrapC c d) = toksOf d := by
  unfold wrapC; split <;> simp

@[simp] theorem tinv_wrapC (P) (c : Option PS) (d : Doc) : TInv P (wrapC c d) ↔ TInv P d := by
  unfold wrapC; split <;> simp

theorem cmt_wrapC (c : Option PS) (d : Doc) (h : commented? d = none) : cmt? (wrapC c d) = nonEmpty? c := by
  unfold wrapC cmt?
  split
  · rename_i t ht; rw [ht]; rfl
  · rename_i ht; rw [ht, h]; rfl

theorem toksOf_intDoc (ctx : Ctx) (n : Int) :
    toksOf (intDoc ctx n) = if ctx.depthZero then ellToks (builtin nmInt) else cd (intLit n) := by
  simp [intDoc, apply_ite toksOf, tkToks, tInt, tComment, tStr]

theorem intLit_ofNat (m : Nat) : intLit (Int.ofNat m) = (Nat.toDigits 10 m).map Char.toNat :=
  congrArg (List.map Char.toNat) (Nat.toList_repr : (Nat.repr m).toList = _)

theorem intLit_digits (m : Nat) : intLit (Int.ofNat m) ≠ [] ∧ ∀ c ∈ intLit (Int.ofNat m), 48 ≤ c ∧ c ≤ 57 := by
  rw [intLit_ofNat]
  refine ⟨by simp [Nat.toDigits_ne_nil], fun c hc => ?_⟩
  obtain ⟨ch, hch, rfl⟩ := List.mem_map.mp hc
  have hd : ch.isDigit := Nat.isDigit_of_mem_toDigits (by decide) (by decide) hch
  simp only [Char.isDigit, Bool.and_eq_true, decide_eq_true_eq] at hd
  exact ⟨UInt32.le_iff_toNat_le.mp hd.1, UInt32.le_iff_toNat_le.mp hd.2⟩

@[simp] theorem tinv_intDoc (P) (ctx : Ctx) (n : Int) : TInv P (intDoc ctx n) := by
  simp [intDoc, apply_ite (TInv P)]

theorem tinv_daysDoc (P) (ctx : Ctx) (days : Int) : TInv P (C07.daysDoc ctx days) := by
  simp [C07.daysDoc, apply_ite (TInv P), apply_ite (TInvL P)]

theorem tinv_tdKw (P) (ctx : Ctx) (d s u : Int) : ∀ p ∈ tdKw ctx d s u, TInv P p.2 := by
  rw [C07.tdKw_eq]
  simp only [List.forall_mem_append, List.forall_mem_map, tinv_intDoc, implies_true, and_true]
  split <;> simp [tinv_daysDoc]

theorem toksOf_timedeltaDoc (ctx ctx' : Ctx) (h : ctx.depthLeft = ctx'.depthLeft) (d s u : Int) :
    toksOf (timedeltaDoc ctx d s u) = toksOf (timedeltaDoc ctx' d s u) := by
  have hz : ctx.depthZero = ctx'.depthZero := by simp [Ctx.depthZero, h]
  simp [timedeltaDoc_eq, tdKw_depth ctx ctx' h, hz, apply_ite toksOf, toksOf_buildFncall]

theorem tinv_timedeltaDoc (P) (ctx : Ctx) (d s u : Int) : TInv P (timedeltaDoc ctx d s u) := by
  simp [timedeltaDoc_eq, apply_ite (TInv P), -Prod.forall, eq_true (tinv_tdKw P ctx d s u)]

@[simp] theorem nc_timedeltaDoc (ctx : Ctx) (d s u : Int) : commented? (timedeltaDoc ctx d s u) = none := by
  simp [timedeltaDoc_eq, apply_ite commented?]

theorem canonL_length (ctx : Ctx) (xs : List PyVal) : (canonL ctx xs).length = xs.length := by
  rw [canonL_eq_map, List.length_map]
theorem canonPairs_length (ctx : Ctx) (kvs : List (PyVal × PyVal)) : (canonPairs ctx kvs).length = kvs.length := by
  rw [canonPairs_eq_map, List.length_map]

theorem keyCanon_above {ctx : Ctx} (hz : ctx.depthZero = false) (k : PyVal) : keyCanon k (canonW ctx k none) = canonW ctx k none := by
  unfold keyCanon
  split
  · simp [canonW, hz]
  · rfl

theorem canonPairs_free {ctx : Ctx} (hf : Free ctx) (kvs : List (PyVal × PyVal)) :
    canonPairs ctx kvs = kvs.map fun p => (p.1, canonW ctx p.1 none, canonW ctx p.2 none) := by
  simp only [canonPairs_eq_map, hf.nested_eq, keyCanon_above hf.depthZero]

/-- hugging the sole argument of a call makes no difference to its tokens -/
theorem canonW_call {ctx : Ctx} (hf : Free ctx) (f : QualName) (args : List PyVal) (kwargs : List (Str × PyVal)) (tr : Option PS) :
    canonW ctx (.call f args kwargs) tr = callToks f (canonL ctx args ++ canonKw ctx kwargs) := by
  rw [canonW, hf.nested_eq, hf.any, if_neg Bool.false_ne_true]
  by_cases hh : hugCall args kwargs = true
  · obtain ⟨a, rfl, rfl, _⟩ := C17.hug_only_exact args kwargs hh
    rw [if_pos hh, canonKw, List.append_nil]
  · rw [if_neg hh]

/-- the comment a printed value carries for its parent is that of its innermost `comment()` wrapper, if that is not empty -/
theorem cmt_toDocW : (v : PyVal) → (ctx : Ctx) → (c tr : Option PS) →
    cmt? (toDocW ctx v c tr) = nonEmpty? (commentOf v c)
  | .commented v t, ctx, _, tr => cmt_toDocW v ctx (some t) tr
  | .trailing v t, ctx, c, _ => cmt_toDocW v ctx c (some t)
  | .none, _, c, _ | .ellipsis, _, c, _ | .bool _, _, c, _ | .opaque _, _, c, _ => cmt_wrapC c _ rfl
  | .ident _, _, c, _ => cmt_wrapC c _ (nc_identDoc _)
  | .timedelta .., _, c, _ => cmt_wrapC c _ (nc_timedeltaDoc ..)
  | .path .., _, c, _ => cmt_wrapC c _ (nc_buildFncall ..)
  | .int none .., _, c, _ => cmt_wrapC c _ (ite_eq_of rfl rfl)
  | .int (some _) .., _, c, _ => cmt_wrapC c _ (ite_eq_of rfl (nc_buildFncall ..))
  | .float none .., _, c, _ => cmt_wrapC c _ (ite_eq_of rfl (ite_eq_of rfl (nc_buildFncall ..)))
  | .float (some _) .., _, c, _ =>
      cmt_wrapC c _ (ite_eq_of rfl (ite_eq_of (nc_buildFncall ..) (nc_buildFncall ..)))
  | .str .., _, c, _ => cmt_wrapC c _ (ite_eq_of rfl rfl)
  | .frozenset .., _, c, _ => cmt_wrapC c _ (ite_eq_of rfl (ite_eq_of rfl (nc_buildFncall ..)))
  | .call .., _, c, _ => cmt_wrapC c _ (ite_eq_of rfl (ite_eq_of (nc_buildFncall ..) (nc_buildFncall ..)))
  | .seq .., _, c, _ => cmt_wrapC c _ (nc_seqDoc ..)
  | .dict .., _, c, _ => cmt_wrapC c _ (nc_dictDoc ..)

/-- what the printers guarantee for one value -/
def ValOk (ctx : Ctx) (v : PyVal) (c tr : Option PS) : Prop :=
  TInv StrOk (toDocW ctx v c tr) ∧ toksOf (toDocW ctx v c tr) = canonW ctx.norm v tr ∧
    (commented? (toDocW ctx v c tr)).isSome = (nonEmpty? (commentOf v c)).isSome ∧
    (commented? (toDocW ctx v c tr)).map (·.1) = nonEmpty? (commentOf v c)

theorem valOk_of {ctx : Ctx} {v : PyVal} {c tr : Option PS} {inner : Doc} (hd : toDocW ctx v c tr = wrapC c inner)
    (h : Has StrOk inner (canonW ctx.norm v tr)) : ValOk ctx v c tr :=
  ⟨by rw [hd, tinv_wrapC]; exact h.1, by rw [hd, toksOf_wrapC, h.2], by rw [← cmt_toDocW v ctx c tr, cmt?, Option.isSome_map],
    cmt_toDocW v ctx c tr⟩

theorem wf_asciiPS_float (kind : Nat) : wfStr false (asciiPS (floatName kind)) := by
  refine List.forall_mem_map.mpr (?_ : ∀ c ∈ floatName kind, c < 1114112)
  unfold floatName
  split
  · decide
  · split <;> decide

theorem cps_asciiPS (s : Str) : cps (asciiPS s) = s := by
  simp [cps, asciiPS, List.map_map, Function.comp_def]

theorem has_keyDoc (ctx : Ctx) (k : PyVal) (d : Doc) (hw : wfVal k) (hd : TInv StrOk d) :
    Has StrOk (keyDoc ctx k d) (keyCanon k (toksOf d)) := by
  cases k with
  | str cls isBytes s => exact ⟨hw, rfl⟩
  | _ => exact ⟨hd, rfl⟩

mutual
theorem toDocW_ok : (v : PyVal) → (ctx : Ctx) → (c tr : Option PS) → wfVal v → ValOk ctx v c tr
  | .commented v t, ctx, _, tr, hw => toDocW_ok v ctx (some t) tr hw
  | .trailing v t, ctx, c, _, hw => toDocW_ok v ctx c (some t) hw
  -- one token each, and `tkToks` of it evaluates to the canonical token
  | .none, _, _, _, _ | .ellipsis, _, _, _, _ | .bool true, _, _, _, _ | .bool false, _, _, _, _ => valOk_of rfl (.tk ..)
  | .opaque r, _, _, _, _ => valOk_of rfl ⟨trivial, rfl⟩
  | .ident parts, _, _, _, _ => valOk_of rfl ⟨tinv_identDoc _ _, toksOf_identDoc _⟩
  | .timedelta d s u, ctx, _, _, _ =>
      valOk_of rfl ⟨tinv_timedeltaDoc _ _ _ _ _, toksOf_timedeltaDoc ctx { ctx.norm with indent := 0 } rfl d s u⟩
  | .path cls posix, _, _, _, hw => valOk_of rfl <| .call1 <| .depth ⟨hw, rfl⟩
  | .int cls val lit, _, _, _, _ =>
      valOk_of rfl <| .depth <| match cls with
        | none => .tk ..
        | some _ => .call1 (.tk ..)
  | .float cls kind lit num den, _, _, _, _ =>
      valOk_of rfl <| .depth <| .ite
        (match cls with
          | none => .tk ..
          | some _ => .call1 (.tk ..))
        (.call1 <| .depth ⟨wf_asciiPS_float kind, congrArg (fun s => [CT.lit (some s)]) (cps_asciiPS _)⟩)
  | .str cls isBytes s, _, _, _, hw => valOk_of rfl <| .depth ⟨hw, rfl⟩
  | .frozenset cls xs, ctx, c, tr, hw => by
      obtain ⟨h1, h2, _⟩ := toDocs_ok xs (seqElCtx ctx xs.length) (by simpa [wfVal] using hw)
      exact valOk_of rfl <| .depth <| .ite ⟨by simp, by simp⟩ <| .call1 <| h2 ▸ has_seqDoc ctx 0 none _ _ none h1
  | .call f args kwargs, ctx, c, tr, hw => by
      have hw' : wfVals args ∧ wfKws kwargs := by simpa [wfVal] using hw
      obtain ⟨a1, a2, _⟩ := toDocs_ok args ctx hw'.1
      obtain ⟨b1, b2, _⟩ := toDocs_ok args (ctx.nested.withStrategy 1) hw'.1
      obtain ⟨k1, k2⟩ := toKwDocs_ok kwargs (ctx.nested.withStrategy 1) hw'.2
      refine valOk_of rfl <| .depth ⟨?_, ?_⟩
      · simp [apply_ite (TInv StrOk), a1, b1, -Prod.forall, eq_true k1]
      · simp [apply_ite toksOf, toksOf_buildFncall, callToks, a2, b2, k2]
  | .seq kind cls xs, ctx, c, tr, hw => by
      obtain ⟨h1, h2, _⟩ := toDocs_ok xs (seqElCtx ctx xs.length) (by simpa [wfVal] using hw)
      have h := has_seqDoc ctx kind cls xs.length _ (nonEmpty? tr) h1
      rw [h2] at h
      exact valOk_of rfl h
  | .dict cls kvs, ctx, c, tr, hw => by
      obtain ⟨h1, h2⟩ := dictDocs_ok kvs ctx (by simpa [wfVal] using hw)
      have h := has_dictDoc ctx cls _ (nonEmpty? tr) h1
      rw [h2] at h
      exact valOk_of rfl h

theorem toDocs_ok : (vs : List PyVal) → (ctx : Ctx) → wfVals vs →
    TInvL StrOk (toDocs ctx vs) ∧ (toDocs ctx vs).map toksOf = canonL ctx.norm vs ∧ (toDocs ctx vs).length = vs.length
  | [], _, _ => ⟨trivial, rfl, rfl⟩
  | v :: r, ctx, hw => by
      simp only [wfVals] at hw
      obtain ⟨a, b, _⟩ := toDocW_ok v ctx none none hw.1
      obtain ⟨c, d, e⟩ := toDocs_ok r ctx hw.2
      simp only [toDocs, TInvL, List.map_cons, canonL, List.length_cons]
      exact ⟨⟨a, c⟩, by rw [b, d], by rw [e]⟩

theorem toKwDocs_ok : (kws : List (Str × PyVal)) → (ctx : Ctx) → wfKws kws →
    (∀ p ∈ toKwDocs ctx kws, TInv StrOk p.2) ∧
    ((toKwDocs ctx kws).map fun (b, d) => kwargDoc b d).map toksOf = canonKw ctx.norm kws
  | [], _, _ => ⟨by simp [toKwDocs], rfl⟩
  | (k, v) :: r, ctx, hw => by
      simp only [wfKws] at hw
      obtain ⟨a, b, _⟩ := toDocW_ok v ctx none none hw.1
      obtain ⟨c, d⟩ := toKwDocs_ok r ctx hw.2
      simp only [toKwDocs, List.map_cons, canonKw, List.forall_mem_cons]
      exact ⟨⟨a, c⟩, by rw [d, toksOf_kwargDoc, b]⟩

theorem dictDocs_ok : (kvs : List (PyVal × PyVal)) → (ctx : Ctx) → wfPairs kvs →
    (∀ pd ∈ dictDocs ctx kvs, TInv StrOk pd.2.1 ∧ TInv StrOk pd.2.2.1 ∧ RerOk StrOk pd) ∧
    (dictDocs ctx kvs).map pdToks = canonPairs ctx.norm kvs
  | [], _, _ => ⟨by simp [dictDocs], rfl⟩
  | (k, v) :: r, ctx, hw => by
      simp only [wfPairs] at hw
      obtain ⟨ka, kb, _⟩ := toDocW_ok k ctx.nested none none hw.1
      obtain ⟨va, vb, vc, _⟩ := toDocW_ok v (ctx.nested.withStrategy 2) none none hw.2.1
      obtain ⟨ra, rb, _⟩ := toDocW_ok v (ctx.nested.withStrategy 0) none none hw.2.1
      obtain ⟨c, d⟩ := dictDocs_ok r ctx hw.2.2
      have hkey := has_keyDoc ctx k _ hw.1 ka
      simp only [dictDocs, List.map_cons, canonPairs, pdToks, List.forall_mem_cons]
      refine ⟨⟨⟨hkey.1, va, ?_⟩, c⟩, by rw [d, hkey.2, vb, kb]; rfl⟩
      intro cc dd hcm
      have hs : hasComment v = true := by
        unfold hasComment; rw [← vc, hcm]; rfl
      simp only [hs, if_true]
      exact ⟨ra, by rw [rb, vb]; rfl⟩
end

theorem has_topDoc {P} {ctx : Ctx} {v : PyVal} {t : List CT} (h : Has P (toDoc ctx v) t) : Has P (topDoc ctx v) t := by
  unfold topDoc
  simp only []
  split <;> simp [Has, h.1, h.2]

end Tok
end PP
