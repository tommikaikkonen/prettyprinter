/-
Induction over renderings: `Lay.induct` is the recursor of the mutually inductive `Lay`, `LayL`, `LayF` with the cases of the two
list predicates renamed and all three conclusions at once, so that a proof gives each case as a named argument.  (Pattern matching
on the derivation has Lean compile a structural recursion over the three predicates, which is far slower to check than the proof.)
-/
import PP.Spec.Lay
namespace PP
open Doc

variable {E : StrSpec → Doc → Prop}

theorem Lay.induct
    {motive_1 : Doc → Int → Mode → Int → List SDoc → Int → Prop}
    {motive_2 : List Doc → Int → Mode → Int → List SDoc → Int → Prop}
    {motive_3 : List Doc → Int → Int → List SDoc → Int → Prop}
    (nil : ∀ {i m c}, motive_1 .nil i m c [] c)
    (textE : ∀ {i m c}, motive_1 (.text []) i m c [] c)
    (text : ∀ {s i m c}, motive_1 (.text s) i m c [.text s] (c + s.length))
    (hardline : ∀ {i m c}, motive_1 .hardline i m c [.line i] i)
    (cat : ∀ {ds i c out c' m} m', m.orBrk (forces (.cat ds)) m' → LayL E ds i m' c out c' →
      motive_2 ds i m' c out c' → motive_1 (.cat ds) i m c out c')
    (nest : ∀ {d i j c out c' m} m', m.orBrk (forces (.nest j d)) m' → Lay E d (i + j) m' c out c' →
      motive_1 d (i + j) m' c out c' → motive_1 (.nest j d) i m c out c')
    (group : ∀ {d i c out c' m} m', Lay E d i m' c out c' → motive_1 d i m' c out c' → motive_1 (.group d) i m c out c')
    (choiceF : ∀ {f i c out c' l b}, Lay E f i .flat c out c' → motive_1 f i .flat c out c' →
      motive_1 (.choice l b f) i .flat c out c')
    (choiceB : ∀ {b i c out c' l f}, Lay E b i .brk c out c' → motive_1 b i .brk c out c' →
      motive_1 (.choice l b f) i .brk c out c')
    (ab : ∀ {d i c out c' m}, Lay E d i .brk c out c' → motive_1 d i .brk c out c' → motive_1 (.ab d) i m c out c')
    (fill : ∀ {ds i c out c' m}, LayF E ds i c out c' → motive_3 ds i c out c' → motive_1 (.fill ds) i m c out c')
    (ann : ∀ {d i m c out c' a}, Lay E d i m c out c' → motive_1 d i m c out c' →
      motive_1 (.ann a d) i m c (.push a :: out ++ [.pop a]) c')
    (align : ∀ {c i d m out c'}, Lay E (.nest (c - i) d) i m c out c' → motive_1 (.nest (c - i) d) i m c out c' →
      motive_1 (.align d) i m c out c')
    (pstr : ∀ {sp d i m c out c'}, E sp d → Lay E d i m c out c' → motive_1 d i m c out c' →
      motive_1 (.pstr sp) i m c out c')
    (lnil : ∀ {i m c}, motive_2 [] i m c [] c)
    (lcons : ∀ {d i m c o1 c1 ds o2 c2}, Lay E d i m c o1 c1 → LayL E ds i m c1 o2 c2 →
      motive_1 d i m c o1 c1 → motive_2 ds i m c1 o2 c2 → motive_2 (d :: ds) i m c (o1 ++ o2) c2)
    (fnil : ∀ {i c}, motive_3 [] i c [] c)
    (fcons : ∀ {d i c o1 c1 ds o2 c2} m', Lay E d i m' c o1 c1 → LayF E ds i c1 o2 c2 →
      motive_1 d i m' c o1 c1 → motive_3 ds i c1 o2 c2 → motive_3 (d :: ds) i c (o1 ++ o2) c2) :
    (∀ {d i m c o c'}, Lay E d i m c o c' → motive_1 d i m c o c') ∧
    (∀ {ds i m c o c'}, LayL E ds i m c o c' → motive_2 ds i m c o c') ∧
    (∀ {ds i c o c'}, LayF E ds i c o c' → motive_3 ds i c o c') :=
  ⟨fun h => Lay.rec nil textE text hardline cat nest group choiceF choiceB ab fill ann align pstr lnil lcons fnil fcons h,
   fun h => LayL.rec nil textE text hardline cat nest group choiceF choiceB ab fill ann align pstr lnil lcons fnil fcons h,
   fun h => LayF.rec nil textE text hardline cat nest group choiceF choiceB ab fill ann align pstr lnil lcons fnil fcons h⟩

theorem Lay.out_induct {P : List SDoc → Prop} (nil : P []) (text : ∀ s, P [.text s]) (line : ∀ i, P [.line i])
    (append : ∀ {a b}, P a → P b → P (a ++ b)) (ann : ∀ a {o}, P o → P (.push a :: o ++ [.pop a]))
    {d i m c o c'} (h : Lay E d i m c o c') : P o :=
  (Lay.induct (E := E) (motive_1 := fun _ _ _ _ o _ => P o) (motive_2 := fun _ _ _ _ o _ => P o)
    (motive_3 := fun _ _ _ o _ => P o) nil nil (text _) (line _) (fun _ _ _ ih => ih) (fun _ _ _ ih => ih)
    (fun _ _ ih => ih) (fun _ ih => ih) (fun _ ih => ih) (fun _ ih => ih) (fun _ ih => ih) (fun _ ih => ann _ ih)
    (fun _ ih => ih) (fun _ _ ih => ih) nil (fun _ _ => append) nil (fun _ _ _ => append)).1 h

theorem LayL.lay {ds i m c o c'} (h : LayL E ds i m c o c') : Lay E (.cat ds) i m c o c' := .cat m (.inl rfl) h
theorem LayF.lay {ds i m c o c'} (h : LayF E ds i c o c') : Lay E (.fill ds) i m c o c' := .fill h

end PP
