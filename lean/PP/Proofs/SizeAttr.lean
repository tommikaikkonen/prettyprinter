import Lean.Meta.Tactic.Simp.RegisterCommand

/-- Equations of `Doc.rsize` on the constructors the value printers use (all but `fill`, `align` and `choice`), of `rsizes`, and of
both on the named building blocks of the printers.
`simp only [rsz]` turns the `rsize` of a document into a sum over its unknown parts; a choice stays, to be bounded by
`Pr.rsize_choice_le`. -/
register_simp_attr rsz
