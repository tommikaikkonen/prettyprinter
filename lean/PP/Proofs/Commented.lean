/-
What the combinators do with a document that carries a comment: where `is_commented(doc)` holds, the caller takes the annotation
off, lays the document under it out and builds the comment's own document next to it; and the three documents `build_fncall` can
return.
-/
import PP.Model.Values
namespace PP
namespace Tok
open Doc PyStr Pr

theorem commented_eq {d : Doc} {c : PS} {inner : Doc} (h : commented? d = some (c, inner)) : d = .ann (.comment c) inner := by
  unfold commented? at h
  split at h
  · cases h; rfl
  · cases h

@[simp] theorem commented_ann (c : PS) (d : Doc) : commented? (.ann (.comment c) d) = some (c, d) := rfl

theorem commented_cases {C : Doc → Prop} (d : Doc) (nc : commented? d = none → C d)
    (cm : ∀ c inner, C (.ann (.comment c) inner)) : C d := by
  cases h : commented? d with
  | none => exact nc h
  | some p => exact commented_eq h ▸ cm p.1 p.2

/-- the document under a comment annotation, if there is one: what `build_fncall` and `pretty_dict` lay out -/
def body (d : Doc) : Doc := match commented? d with | some (_, inner) => inner | none => d

/-- the comment a document is annotated with -/
def cmt? (d : Doc) : Option PS := (commented? d).map (·.1)

/-- one turn of the loop of `pretty_dict`: key and value are laid out without their comment annotations -/
theorem dictPartsOf_step (ind : Int) (n idx : Nat) (pd : PairDocs) (r : List PairDocs) :
    (dictPartsOf ind n (pd :: r) idx).1 =
      dictPart ind (idx + 1 == n) (body pd.2.1) (body pd.2.2.1) (nonEmpty? (cmt? pd.2.1)) (nonEmpty? (cmt? pd.2.2.1)) pd.2.2.2
        :: (dictPartsOf ind n r (idx + 1)).1 := by
  obtain ⟨k, kd, vd, rer⟩ := pd
  rw [dictPartsOf]
  unfold body cmt?
  cases commented? kd <;> cases commented? vd <;> rfl

theorem buildFncall_cases {C : Doc → Prop} (ind : Int) (fn : Doc) (args : List Doc) (kw : List (Str × Doc)) (hug : Bool)
    (empty : args = [] → kw = [] → C (.cat [fn, LPAREN, RPAREN]))
    (hugged : ∀ a, args = [a] → kw = [] → C (.group (.cat [fn, LPAREN, a, RPAREN])))
    (rest : C (buildFncall.buildRest ind fn (args ++ kw.map fun (b, d) => kwargDoc b d) none)) :
    C (buildFncall ind fn args kw hug none) := by
  unfold buildFncall
  simp only []
  split
  · rename_i h
    simp only [Bool.and_eq_true, List.isEmpty_iff, List.map_eq_nil_iff] at h
    exact empty h.1 h.2
  · split
    · rename_i a heq _
      split
      · exact hugged a rfl (by simpa using heq)
      · exact rest
    · exact rest

end Tok
end PP
