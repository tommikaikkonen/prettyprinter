/-
Induction on values with the hypotheses for the elements of a container given by membership, so that a property of values is
proved by the `induction` tactic and its versions for lists of values, keyword arguments and dict entries are corollaries
(through `eq_map_of` / `all_iff_of`, Spec/Companions.lean).
-/
import PP.Model.Values
import PP.Spec.Companions
namespace PP

/-- `iteInduction` when the condition does not matter.  A bound on a document built by nested conditionals is that case, and
this is far cheaper to check than `split`. -/
theorem ite_of {α} {P : α → Prop} {c : Prop} [Decidable c] {a b : α} (ha : P a) (hb : P b) : P (if c then a else b) :=
  iteInduction (fun _ => ha) (fun _ => hb)

/-! The two shapes in which `P` is found by unification (`ite_of` needs it spelt out unless the goal is `P (if …)` itself):
a function with the same value, or under the same bound, on both branches. -/
theorem ite_eq_of {α β} {f : α → β} {y : β} {c : Prop} [Decidable c] {a b : α} (ha : f a = y) (hb : f b = y) :
    f (if c then a else b) = y :=
  ite_of (P := (f · = y)) ha hb

theorem ite_le_of {α} {f : α → Nat} {k : Nat} {c : Prop} [Decidable c] {a b : α} (ha : f a ≤ k) (hb : f b ≤ k) :
    f (if c then a else b) ≤ k :=
  ite_of (P := (f · ≤ k)) ha hb

theorem ite_imp {c : Prop} [Decidable c] {a a' b b' : Prop} (ha : a → a') (hb : b → b') :
    (if c then a else b) → if c then a' else b' := by
  split <;> assumption

namespace Pr

theorem PyVal.induct {motive : PyVal → Prop}
    (commented : ∀ v t, motive v → motive (.commented v t))
    (trailing : ∀ v t, motive v → motive (.trailing v t))
    (seq : ∀ kind cls xs, (∀ x ∈ xs, motive x) → motive (.seq kind cls xs))
    (frozenset : ∀ cls xs, (∀ x ∈ xs, motive x) → motive (.frozenset cls xs))
    (dict : ∀ cls kvs, (∀ p ∈ kvs, motive p.1 ∧ motive p.2) → motive (.dict cls kvs))
    (call : ∀ f args kwargs, (∀ x ∈ args, motive x) → (∀ p ∈ kwargs, motive p.2) → motive (.call f args kwargs))
    (int : ∀ cls val lit, motive (.int cls val lit))
    (float : ∀ cls kind lit n d, motive (.float cls kind lit n d))
    (bool : ∀ b, motive (.bool b)) (none : motive .none) (ellipsis : motive .ellipsis)
    (str : ∀ cls b s, motive (.str cls b s))
    (opq : ∀ r, motive (.opaque r)) (timedelta : ∀ d s u, motive (.timedelta d s u))
    (ident : ∀ parts, motive (.ident parts)) (path : ∀ cls p, motive (.path cls p)) : ∀ v, motive v :=
  PyVal.rec (motive_1 := motive) (motive_2 := fun xs => ∀ x ∈ xs, motive x)
    (motive_3 := fun kvs => ∀ p ∈ kvs, motive p.1 ∧ motive p.2) (motive_4 := fun kws => ∀ p ∈ kws, motive p.2)
    (motive_5 := fun p => motive p.1 ∧ motive p.2) (motive_6 := fun p => motive p.2)
    int float bool none ellipsis str seq frozenset dict call opq timedelta ident path commented trailing
    (fun _ h => nomatch h) (fun _ _ h t => List.forall_mem_cons.mpr ⟨h, t⟩)
    (fun _ h => nomatch h) (fun _ _ h t => List.forall_mem_cons.mpr ⟨h, t⟩)
    (fun _ h => nomatch h) (fun _ _ h t => List.forall_mem_cons.mpr ⟨h, t⟩) (fun _ _ a b => ⟨a, b⟩) (fun _ _ h => h)

end Pr

/-- in the form the hypotheses of `PyVal.induct` have -/
theorem map_eq_self {α} {f : α → α} {xs : List α} (h : ∀ x ∈ xs, f x = x) : xs.map f = xs :=
  (List.map_congr_left h).trans (List.map_id xs)

end PP
