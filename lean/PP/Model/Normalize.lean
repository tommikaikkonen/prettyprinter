/-
M1 (part 2): `normalize_doc` / the `normalize` methods of doctypes.py, method by method,
and the size lemma the layout machine's termination proof needs.
-/
import PP.Model.Doc
namespace PP
namespace Doc

def isAb : Doc → Bool | .ab _ => true | _ => false
def unAb : Doc → Doc | .ab d => d | d => d
def isNil : Doc → Bool | .nil => true | _ => false
def wrapAb (p : Bool) (d : Doc) : Doc := if p then .ab d else d

/-- One iteration of the loop in `Concat.normalize`, on an already normalised child. -/
def catStep (n : Doc) (acc : List Doc × Bool) : List Doc × Bool :=
  match n with
  | .cat xs => (acc.1 ++ xs, acc.2)
  | .ab x => (acc.1 ++ [x], true)
  | .nil => acc
  | d => (acc.1 ++ [d], acc.2)

/-- `Fill.normalize` (after the F2 repair): drops items that *are* `NIL`, keeps everything else
un-normalised, and reports whether some item *is* an `AlwaysBreak`. -/
def fillKeep : List Doc → List Doc
  | [] => []
  | d :: ds => if d.isNil then fillKeep ds else d :: fillKeep ds
def anyAb : List Doc → Bool
  | [] => false
  | d :: ds => d.isAb || anyAb ds

mutual
def normalize : Doc → Doc
  | .nil => .nil
  | .text s => if s = [] then .nil else .text s
  | .hardline => .hardline
  | .cat ds =>
    let r := normCat ds ([], false)
    match r.1 with
    | [] => .nil
    | [x] => wrapAb r.2 x
    | xs => wrapAb r.2 (.cat xs)
  | .nest j d =>
    let n := normalize d
    if n.isAb then .ab (.nest j n.unAb) else .nest j n
  | .group d =>
    let n := normalize d
    if n.isAb then n else if n.isNil then .nil else .group n
  | .choice _ b f => .choice true b f
  | .ab d =>
    let n := normalize d
    if n.isAb then n else .ab n
  | .fill ds =>
    match fillKeep ds with
    | [] => .nil
    | xs => wrapAb (anyAb ds) (.fill xs)
  | .ann a d => .ann a (normalize d)
  | .align d => .align d
  | .pstr sp => .pstr sp
def normCat : List Doc → List Doc × Bool → List Doc × Bool
  | [], acc => acc
  | d :: ds, acc => normCat ds (catStep (normalize d) acc)
end

/-! ### `size (normalize d) ≤ rsize d`

`normalize` may add one `AlwaysBreak` wrapper around a `fill` (and only there does it grow); `rsize` pre-pays that
wrapper, and measures the broken alternative of a choice as it will be measured once the copy is lazily normalising. -/

theorem eq_ab_of_isAb {n : Doc} (h : n.isAb = true) : n = .ab n.unAb := by cases n <;> simp_all [isAb, unAb]
theorem eq_nil_of_isNil {n : Doc} (h : n.isNil = true) : n = .nil := by cases n <;> simp_all [isNil]

def flagBit (b : Bool) : Nat := if b then 1 else 0

theorem size_wrapAb (p : Bool) (d : Doc) : size (wrapAb p d) = size d + flagBit p := by
  cases p <;> simp [wrapAb, flagBit, size]; omega

theorem catStep_size (n : Doc) (acc : List Doc × Bool) :
    sizes (catStep n acc).1 + flagBit (catStep n acc).2 ≤ sizes acc.1 + flagBit acc.2 + size n := by
  unfold catStep
  split <;> simp [sizes, size, flagBit] <;> omega

theorem sizesF_fillKeep (ds : List Doc) : sizesF (fillKeep ds) ≤ sizesF ds := by
  induction ds with
  | nil => simp [fillKeep]
  | cons d ds ih => simp only [fillKeep]; split <;> simp [sizesF] <;> omega

theorem flagBit_le (b : Bool) : flagBit b ≤ 1 := by cases b <;> simp [flagBit]

mutual
theorem size_normalize : (d : Doc) → size (normalize d) ≤ rsize d
  | .nil | .hardline | .choice .. | .align _ | .pstr _ => by simp [normalize, size, rsize]
  | .text s => by simp only [normalize]; split <;> simp [size, rsize]
  | .ann a d => by have := size_normalize d; simp only [normalize, size, rsize]; omega
  | .ab d => by
      have := size_normalize d
      simp only [normalize]; split <;> simp only [size, rsize] <;> omega
  | .nest j d => by
      have := size_normalize d
      simp only [normalize]; split
      · rename_i h
        rw [eq_ab_of_isAb h] at this
        simp only [size, rsize] at *; omega
      · simp only [size, rsize]; omega
  | .group d => by
      have := size_normalize d
      simp only [normalize]; split
      · simp only [rsize]; omega
      · split <;> simp only [size, rsize] <;> omega
  | .fill ds => by
      simp only [normalize]
      split
      · simp only [size, rsize]; omega
      · have h1 := sizesF_fillKeep ds
        have h2 := flagBit_le (anyAb ds)
        rw [size_wrapAb]; simp only [size, rsize]
        omega
  | .cat ds => by
      have h := size_normCat ds ([], false)
      have hp := flagBit_le (normCat ds ([], false)).2
      simp only [normalize, rsize]
      split <;> simp_all only [size_wrapAb, size, sizes, show flagBit false = 0 from rfl] <;> omega
theorem size_normCat : (ds : List Doc) → (acc : List Doc × Bool) →
    sizes (normCat ds acc).1 + flagBit (normCat ds acc).2 ≤ sizes acc.1 + flagBit acc.2 + rsizes ds
  | [], acc => by simp [normCat, rsizes]
  | d :: ds, acc => by
      have h1 := size_normalize d
      have h2 := catStep_size (normalize d) acc
      have h3 := size_normCat ds (catStep (normalize d) acc)
      simp only [normCat, rsizes]; omega
end

end Doc
end PP
