/-
M1 (part 3): the two fitting predicates and the stack machine `best_layout` of layout.py.
`left` = chars_left, `mw` = max_width, `mn` = min_nesting_level.  The head of a stack list is its top.
-/
import PP.Model.Normalize
namespace PP
open Doc

/-- Layout configuration: page width, ribbon width (already rounded and clamped, layout.py:221),
strategy, and the evaluator of `pretty_str`'s contextual document (indent column page_width ribbon_width). -/
structure Cfg where
  w : Int
  rw : Int
  smart : Bool := true
  ev : StrSpec → Int → Int → Int → Int → Doc := fun _ _ _ _ _ => .nil

/-- `normalize_doc(doc.fn(indent, column, page_width, ribbon_width))` for a `pstr` node.  The result is
clamped to the node's declared size bound so that the machine's measure decreases; the clamp is dead
code for the real evaluator (`Pr.evalStr_bounded`, Proofs/EvBound.lean). -/
def Cfg.evC (cfg : Cfg) (sp : StrSpec) (i c : Int) : Doc :=
  let d := (cfg.ev sp i c cfg.w cfg.rw).normalize
  if d.size ≤ sp.bound then d else .nil

theorem Cfg.size_evC (cfg : Cfg) (sp : StrSpec) (i c : Int) : (cfg.evC sp i c).size ≤ sp.bound := by
  unfold Cfg.evC; simp only; split
  · assumption
  · simp [Doc.size, StrSpec.bound]

/-- Reading a `FlatChoice` in the given mode (doctypes.py:144-156): the broken alternative of a
lazily-normalising copy is normalised on access; the flat alternative never is (see DESIGN §4/M1). -/
def pick (m : Mode) (l : Bool) (b f : Doc) : Doc :=
  if m = .flat then f else if l then b.normalize else b

theorem size_pick (m l b f) : (pick m l b f).size < (Doc.choice l b f).size := by
  have := size_normalize b
  simp only [pick, Doc.size]
  split
  · omega
  · split <;> omega

/-- `Nest(column - indent, doc).normalize()` — the evaluation of `align(doc)`. -/
def alignAt (k : Int) (d : Doc) : Doc := (Doc.nest k d).normalize

theorem size_alignAt (k d) : (alignAt k d).size < (Doc.align d).size := by
  have := size_normalize (.nest k d); simp only [Doc.size, Doc.rsize] at this ⊢; unfold alignAt; omega

/-! As `simp` lemmas these are given with `↓`, so that they are tried before `stkSize` is unfolded. -/
theorem stkSize_pick {i i' : Int} {m m' : Mode} {l b f r} :
    stkSize ((i, m, .doc (pick m l b f)) :: r) < stkSize ((i', m', .doc (.choice l b f)) :: r) :=
  Nat.add_lt_add_right (size_pick ..) _
theorem stkSize_alignAt {i i' : Int} {m m' : Mode} {k d r} :
    stkSize ((i, m, .doc (alignAt k d)) :: r) < stkSize ((i', m', .doc (.align d)) :: r) :=
  Nat.add_lt_add_right (size_alignAt ..) _
theorem stkSize_evC {cfg : Cfg} {i i' j c : Int} {m m' : Mode} {sp r} :
    stkSize ((i, m, .doc (cfg.evC sp j c)) :: r) < stkSize ((i', m', .doc (.pstr sp)) :: r) :=
  Nat.add_lt_add_right (Nat.lt_of_le_of_lt (cfg.size_evC ..) (Nat.lt_add_of_pos_left (by decide))) _

/-- fast_fitting_predicate (layout.py:45-121) -/
def fitsFast (cfg : Cfg) (mw : Int) (left : Int) (stk : List Triple) : Bool :=
  if left < 0 then false else
  match stk with
  | [] => true
  | (i, m, it) :: r =>
    match it with
    | .pop _ => fitsFast cfg mw left r
    | .doc d =>
      match d with
      | .nil => fitsFast cfg mw left r
      | .text s => fitsFast cfg mw (left - s.length) r
      | .cat ds => fitsFast cfg mw left (pushAll i m ds r)
      | .ann _ d => fitsFast cfg mw left ((i, m, .doc d) :: r)
      | .fill ds => fitsFast cfg mw left (pushAll i m ds r)
      | .nest j d => fitsFast cfg mw left ((i + j, m, .doc d) :: r)
      | .ab _ => false
      | .hardline => true
      | .choice l b f => fitsFast cfg mw left ((i, m, .doc (pick m l b f)) :: r)
      | .group d => fitsFast cfg mw left ((i, .flat, .doc d) :: r)
      | .align d => fitsFast cfg mw left ((i, m, .doc (alignAt ((mw - left) - i) d)) :: r)
      | .pstr sp => fitsFast cfg mw left ((i, m, .doc (cfg.evC sp i (mw - left))) :: r)
termination_by stkSize stk
decreasing_by
  all_goals simp_wf
  all_goals simp only [↓stkSize_pick, ↓stkSize_alignAt, ↓stkSize_evC, stkSize, Item.size, Doc.size, sizesF_eq]
  all_goals omega

/-- smart_fitting_predicate (layout.py:124-208) -/
def fitsSmart (cfg : Cfg) (mn mw : Int) (left : Int) (stk : List Triple) : Bool :=
  if left < 0 then false else
  match stk with
  | [] => true
  | (i, m, it) :: r =>
    match it with
    | .pop _ => fitsSmart cfg mn mw left r
    | .doc d =>
      match d with
      | .nil => fitsSmart cfg mn mw left r
      | .text s => fitsSmart cfg mn mw (left - s.length) r
      | .cat ds => fitsSmart cfg mn mw left (pushAll i m ds r)
      | .ann _ d => fitsSmart cfg mn mw left ((i, m, .doc d) :: r)
      | .fill ds => fitsSmart cfg mn mw left (pushAll i m ds r)
      | .nest j d => fitsSmart cfg mn mw left ((i + j, m, .doc d) :: r)
      | .ab _ => false
      | .hardline => if i > mn then fitsSmart cfg mn mw (cfg.w - i) r else true
      | .choice l b f => fitsSmart cfg mn mw left ((i, m, .doc (pick m l b f)) :: r)
      | .group d => fitsSmart cfg mn mw left ((i, .flat, .doc d) :: r)
      | .align d => fitsSmart cfg mn mw left ((i, m, .doc (alignAt ((mw - left) - i) d)) :: r)
      | .pstr sp => fitsSmart cfg mn mw left ((i, m, .doc (cfg.evC sp i (mw - left))) :: r)
termination_by stkSize stk
decreasing_by
  all_goals simp_wf
  all_goals simp only [↓stkSize_pick, ↓stkSize_alignAt, ↓stkSize_evC, stkSize, Item.size, Doc.size, sizesF_eq]
  all_goals omega

def avail (w rw col i : Int) : Int := min (w - col) (i + rw - col)

/-- The fitting predicate handed to `best_layout` (layout_smart / layout_fast). -/
def fits (cfg : Cfg) (mn mw : Int) (stk : List Triple) : Bool :=
  if cfg.smart then fitsSmart cfg mn mw mw stk else fitsFast cfg mw mw stk

theorem fits_smart {cfg : Cfg} (hs : cfg.smart = true) (mn mw stk) : fits cfg mn mw stk = fitsSmart cfg mn mw mw stk :=
  if_pos hs
theorem fits_fast {cfg : Cfg} (hs : cfg.smart = false) (mn mw stk) : fits cfg mn mw stk = fitsFast cfg mw mw stk :=
  if_neg (hs ▸ Bool.false_ne_true)

def modeOf (b : Bool) : Mode := if b then .flat else .brk

/-- best_layout (layout.py:211-378): the remaining stack and the current output column to the SDoc stream. -/
def run (cfg : Cfg) (stk : List Triple) (col : Int) : List SDoc :=
  match stk with
  | [] => []
  | (i, m, it) :: r =>
    match it with
    | .pop a => .pop a :: run cfg r col
    | .doc d =>
      match d with
      | .nil => run cfg r col
      | .hardline => .line i :: run cfg r i
      | .text s => .text s :: run cfg r (col + s.length)
      | .cat ds => run cfg (pushAll i m ds r) col
      | .align d => run cfg ((i, m, .doc (alignAt (col - i) d)) :: r) col
      | .pstr sp => run cfg ((i, m, .doc (cfg.evC sp i col)) :: r) col
      | .ann a d => .push a :: run cfg ((i, m, .doc d) :: (i, m, .pop a) :: r) col
      | .choice l b f => run cfg ((i, m, .doc (pick m l b f)) :: r) col
      | .nest j d => run cfg ((i + j, m, .doc d) :: r) col
      | .ab d => run cfg ((i, .brk, .doc d) :: r) col
      | .group d =>
        let a := avail cfg.w cfg.rw col i
        let fit := fits cfg (min col i) a ((i, .flat, .doc d) :: r)
        run cfg ((i, modeOf fit, .doc d) :: r) col
      | .fill ds =>
        match ds with
        | [] => run cfg r col
        | [x] =>
          let a := avail cfg.w cfg.rw col i
          let fit := fitsFast cfg a a [(i, .flat, .doc x)]
          run cfg ((i, modeOf fit, .doc x) :: r) col
        | [x, ws] =>
          let a := avail cfg.w cfg.rw col i
          let fit := fitsFast cfg a a [(i, .flat, .doc x)]
          run cfg ((i, modeOf fit, .doc x) :: (i, modeOf fit, .doc ws) :: r) col
        | x :: ws :: y :: rest =>
          let a := avail cfg.w cfg.rw col i
          let fit := fitsFast cfg a a [(i, .flat, .doc x)]
          let fit2 := fitsFast cfg a a [(i, .flat, .doc (.cat [x, ws]))]
          run cfg ((i, modeOf (fit2 || fit), .doc x) :: (i, modeOf fit2, .doc ws) ::
                   (i, m, .doc (.fill (y :: rest))) :: r) col
termination_by stkSize stk
decreasing_by
  all_goals simp_wf
  all_goals simp only [↓stkSize_pick, ↓stkSize_alignAt, ↓stkSize_evC, stkSize, Item.size, Doc.size, sizesF_eq, sizes,
    List.length_cons]
  all_goals omega

/-- `best_layout(doc, width, ribbon_frac, predicate)` with `rw` the rounded ribbon width. -/
def layout (cfg : Cfg) (d : Doc) : List SDoc := run cfg [(0, .brk, .doc d.normalize)] 0

end PP
