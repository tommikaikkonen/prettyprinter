/-
M1 (part 1): documents, simple documents, sizes.  Mirrors prettyprinter/doctypes.py, sdoctypes.py.
Import-free, executable.  Text is carried as lists of code points (`Str`), never `String`.
-/
namespace PP

abbrev Str := List Nat

inductive Mode | brk | flat
deriving DecidableEq, Repr, Inhabited

/-- One character of a Python `str`/`bytes` value together with the CPython classification bits the
model cannot compute for itself (they are inputs; theorems quantify over them). -/
structure PChar where
  cp : Nat
  printable : Bool := true     -- str.isprintable()
  word : Bool := false         -- matches \w  (re, unicode for str / ascii for bytes)
  space : Bool := false        -- matches \s
deriving DecidableEq, Repr, Inhabited

/-- Annotation values.  `tok n` = the `n`-th member of `syntax.Token` (table in `Generated.lean`),
`comment s` = `CommentAnnotation(s)` (the text with its classification bits), `other n` = any other user annotation. -/
inductive Ann
  | tok (n : Nat) | comment (s : List PChar) | other (n : Nat)
deriving DecidableEq, Repr, Inhabited

/-- What `pretty_str` closes over (prettyprinter.py:1827-1837). -/
structure StrSpec where
  s : List PChar
  isBytes : Bool := false
  strategy : Nat := 0           -- 0 PLAIN, 1 HANG, 2 INDENTED, 3 PARENS
  ppIndent : Int := 4           -- ctx.indent
  cls : Option (Bool × Str) := none   -- non-native constructor: (is a builtin name, qualified name)
  slashPattern : Bool := false  -- split_pattern = (/+)  (pure paths); otherwise the default patterns
deriving Repr, Inhabited

def StrSpec.bound (sp : StrSpec) : Nat := 64 * sp.s.length + 64

inductive Doc where
  | nil
  | text (s : Str)
  | hardline
  | cat (ds : List Doc)
  | nest (i : Int) (d : Doc)
  | group (d : Doc)
  | choice (lazy : Bool) (b f : Doc)   -- FlatChoice(when_broken=b, when_flat=f, normalize_on_access=lazy)
  | ab (d : Doc)                        -- AlwaysBreak
  | fill (ds : List Doc)
  | ann (a : Ann) (d : Doc)
  | align (d : Doc)                     -- Contextual(λ indent column … ↦ Nest(column - indent, d))
  | pstr (sp : StrSpec)                 -- Contextual(evaluator of pretty_str)
deriving Repr, Inhabited

inductive SDoc where
  | text (s : Str) | line (i : Int) | push (a : Ann) | pop (a : Ann)
deriving Repr, DecidableEq, Inhabited

namespace Doc
mutual
/-- Work measure of a document that is *on the machine's stack* (it will not be normalised as a whole any more).
A `choice` counts only its larger alternative — the machine and the lookaheads enter exactly one — so a sub-document
shared by both alternatives (as the comment printers do) is counted once.  The broken alternative of a lazily
normalising copy and the body of an `align` will be normalised when read; they are measured with `rsize`. -/
def size : Doc → Nat
  | nil => 1 | text _ => 1 | hardline => 1
  | cat ds => 1 + sizes ds
  | nest _ d => 1 + size d
  | group d => 1 + size d
  | choice l b f => 1 + max (if l then rsize b else size b) (size f)
  | ab d => 1 + size d
  | fill ds => 2 + sizesF ds
  | ann _ d => 2 + size d
  | align d => 3 + rsize d
  | pstr sp => 2 + sp.bound
/-- Work measure of a document that may still be normalised: `size (normalize d) ≤ rsize d`.  It differs from `size`
only by pre-paying the `AlwaysBreak` wrapper `Fill.normalize` may add and by measuring broken alternatives raw. -/
def rsize : Doc → Nat
  | nil => 1 | text _ => 1 | hardline => 1
  | cat ds => 1 + rsizes ds
  | nest _ d => 1 + rsize d
  | group d => 1 + rsize d
  | choice _ b f => 1 + max (rsize b) (size f)
  | ab d => 1 + rsize d
  | fill ds => 3 + sizesF ds
  | ann _ d => 2 + rsize d
  | align d => 3 + rsize d
  | pstr sp => 2 + sp.bound
def sizes : List Doc → Nat
  | [] => 0
  | d :: ds => size d + sizes ds
def rsizes : List Doc → Nat
  | [] => 0
  | d :: ds => rsize d + rsizes ds
def sizesF : List Doc → Nat
  | [] => 0
  | d :: ds => 1 + size d + sizesF ds
end

theorem sizesF_eq (ds : List Doc) : sizesF ds = sizes ds + ds.length := by
  induction ds with
  | nil => rfl
  | cons d r ih => simp +arith only [sizesF, sizes, List.length_cons, ih]

theorem sizes_le_sizesF (ds : List Doc) : sizes ds ≤ sizesF ds :=
  sizesF_eq ds ▸ Nat.le_add_right ..

theorem size_pos (d : Doc) : 0 < size d := by
  cases d
  case nil | text | hardline => exact Nat.one_pos
  all_goals exact Nat.add_pos_left (by decide) _

@[simp] theorem sizes_append (xs ys : List Doc) : sizes (xs ++ ys) = sizes xs + sizes ys := by
  induction xs with
  | nil => simp [sizes]
  | cons x xs ih => simp +arith only [List.cons_append, sizes, ih]

mutual
theorem size_le_rsize : (d : Doc) → size d ≤ rsize d
  | .nil | .text _ | .hardline | .align _ | .pstr _ => Nat.le_refl _
  | .cat ds => Nat.add_le_add_left (sizes_le_rsizes ds) 1
  | .nest _ d | .group d | .ab d => Nat.add_le_add_left (size_le_rsize d) 1
  | .ann _ d => Nat.add_le_add_left (size_le_rsize d) 2
  | .fill ds => Nat.add_le_add_right (by decide : 2 ≤ 3) _
  | .choice l b f => by
      have : (if l then rsize b else size b) ≤ rsize b := by
        split
        · exact Nat.le_refl _
        · exact size_le_rsize b
      exact Nat.add_le_add_left (Nat.max_le.mpr ⟨Nat.le_trans this (Nat.le_max_left ..), Nat.le_max_right ..⟩) 1
theorem sizes_le_rsizes : (ds : List Doc) → sizes ds ≤ rsizes ds
  | [] => Nat.le_refl 0
  | d :: r => Nat.add_le_add (size_le_rsize d) (sizes_le_rsizes r)
end

def line : Doc := .choice false .hardline (.text [32])
def softline : Doc := .choice false .hardline .nil
def hang (i : Int) (d : Doc) : Doc := .align (.nest i d)
end Doc

/-- A stack entry of `best_layout`: a document, or the `SAnnotationPop` marker. -/
inductive Item where
  | doc (d : Doc) | pop (a : Ann)
deriving Repr, Inhabited

def Item.size : Item → Nat
  | .doc d => d.size
  | .pop _ => 1

abbrev Triple := Int × Mode × Item

def stkSize : List Triple → Nat
  | [] => 0
  | (_, _, it) :: r => it.size + stkSize r

/-- `triplestack.extend((indent, mode, d) for d in reversed(ds))` — head of the list is the stack top. -/
def pushAll (i : Int) (m : Mode) (ds : List Doc) (stk : List Triple) : List Triple :=
  match ds with
  | [] => stk
  | d :: r => (i, m, .doc d) :: pushAll i m r stk

@[simp] theorem stkSize_pushAll (i m ds stk) :
    stkSize (pushAll i m ds stk) = Doc.sizes ds + stkSize stk := by
  induction ds with
  | nil => simp [pushAll, Doc.sizes]
  | cons d r ih => simp +arith only [pushAll, Doc.sizes, stkSize, Item.size, ih]

end PP
