/-
M7: printing an object graph of containers with the `visited` set (prettyprinter.py:325-332, 351-361, 1936-1940).
After the F10 repair the visit runs under try/finally, so the set a child sees is exactly the set of objects that
are being printed at that moment — the current DFS path — which is how it is passed here.
-/
import PP.Model.Values
namespace PP
namespace Graph
open Pr

inductive Child | leaf (n : Int) | ref (i : Nat)
deriving Repr

/-- kind 0 list, 1 dict (keys 'k0', 'k1', …), 2 tuple; `idText` = the digits of `id(obj)` -/
structure Node where
  kind : Nat
  kids : List Child
  idText : Str
deriving Repr

abbrev G := Array Node

def unvisited (g : G) (vis : List Nat) : Nat :=
  ((List.range g.size).filter (fun i => !vis.contains i)).length

theorem unvisited_lt (g : G) (vis : List Nat) (i : Nat) (hi : i < g.size) (hv : vis.contains i = false) :
    unvisited g (i :: vis) < unvisited g vis := by
  unfold unvisited
  rw [show (fun j => !(i :: vis).contains j) = fun j => (j != i) && !vis.contains j from
        funext fun j => by simp [bne, Bool.beq_eq_decide_eq], ← List.filter_filter]
  exact List.length_filter_lt_length_iff_exists.mpr ⟨i, by simpa [hi] using hv, by simp⟩

def kindName (k : Nat) : Str :=
  if k == 0 then [108, 105, 115, 116] else if k == 1 then [100, 105, 99, 116] else [116, 117, 112, 108, 101]

/-- '<Recursion on {} with id={}>'.format(type(value).__name__, id(value)) -/
def markerText (k : Nat) (idText : Str) : Str :=
  [60, 82, 101, 99, 117, 114, 115, 105, 111, 110, 32, 111, 110, 32] ++ kindName k ++
  [32, 119, 105, 116, 104, 32, 105, 100, 61] ++ idText ++ [62]

def keyOf (n : Nat) : PyVal := .str none false (asciiPS ([107] ++ natDigits n))

def mkNode (k : Nat) (kids : List PyVal) : PyVal :=
  if k == 1 then .dict none ((List.range kids.length).zip kids |>.map fun (i, v) => (keyOf i, v))
  else .seq (if k == 0 then 0 else 1) none kids

def intVal (n : Int) : PyVal := .int none n ((toString n).toList.map Char.toNat)

mutual
/-- `_run_pretty` on node `i` while the nodes in `path` are being printed: a recursion marker iff `i` is one of them -/
def unfold (g : G) (path : List Nat) (i : Nat) : PyVal :=
  if h : i < g.size then
    if hv : path.contains i then .opaque (markerText g[i].kind g[i].idText)
    else mkNode g[i].kind (unfoldKids g (i :: path) g[i].kids)
  else .opaque []
termination_by (unvisited g path, 0)
decreasing_by
  apply Prod.Lex.left
  exact unvisited_lt g path i h (by simpa using hv)
def unfoldKids (g : G) (path : List Nat) : List Child → List PyVal
  | [] => []
  | .leaf n :: r => intVal n :: unfoldKids g path r
  | .ref j :: r => unfold g path j :: unfoldKids g path r
termination_by ks => (unvisited g path, ks.length + 1)
decreasing_by
  all_goals simp_wf
  · apply Prod.Lex.right; omega
  · apply Prod.Lex.right; omega
  · apply Prod.Lex.right; omega
end

/-- pformat of the object `root` of graph `g` -/
def pformatG (s : Settings) (g : G) (root : Nat) : Str := pformatM s (unfold g [] root)

end Graph
end PP
