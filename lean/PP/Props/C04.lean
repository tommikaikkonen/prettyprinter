/-
C04 — the layout engine only ever picks one of the layouts a document denotes.
-/
import PP.Proofs.Sound
import PP.Model.Render
import PP.Model.Values
import PP.Proofs.EvBound
namespace PP.C04
open PP Doc

/-- **C04.sound** — for every document of the combinator algebra (incl. `fill`, `align`/`hang`, general
`flat_choice`, annotations, plain strings, string contextuals), every page width and ribbon width and both
strategies, the emitted SDoc stream is a rendering of the document in the reference semantics `Lay`:
every text fragment once and in order, line breaks indented by the enclosing nest/align offsets, flat
alternatives only in flat mode, always_break content broken, annotations as matching push/pop pairs. -/
theorem sound (cfg : Cfg) (hb : cfg.EvBounded) (d : Doc) :
    ∃ c', Lay cfg.Ev d 0 .brk 0 (layout cfg d) c' := by
  obtain ⟨o1, o2, c1, heq, hd, hr⟩ := (run_sound cfg hb [(0, .brk, .doc d.normalize)] 0).inv_doc
  cases hr
  exact ⟨c1, by simpa [layout, heq] using lay_normalize d hd⟩

/-- the same for the engine without string contextuals (the default evaluator): no hypothesis at all -/
theorem sound_plain (w rw : Int) (smart : Bool) (d : Doc) :
    ∃ c', Lay (Cfg.Ev { w := w, rw := rw, smart := smart }) d 0 .brk 0
      (layout { w := w, rw := rw, smart := smart } d) c' :=
  sound _ (by intro sp i c; simp [Doc.normalize, Doc.size, StrSpec.bound]) d

/-- **C04.sound_pformat** — engine soundness for the configuration `pformat` really runs (string contextuals evaluated
by `pretty_str`'s evaluator): no hypothesis.  The stream printed for *any* value, with any settings, is a rendering of
the document the printers built. -/
theorem sound_pformat (s : Pr.Settings) (v : Pr.PyVal) :
    ∃ c', Lay s.cfg.Ev (Pr.topDoc s.ctx v) 0 .brk 0 (Pr.sdocsM s v) c' :=
  sound s.cfg (Pr.evalStr_bounded _ _ _) _

/-- **C04.sound_str** — the string evaluator satisfies the hypothesis of `sound` at every width, for every document -/
theorem sound_str (w rw : Int) (smart : Bool) (d : Doc) :
    ∃ c', Lay (Cfg.Ev { w := w, rw := rw, smart := smart, ev := Pr.evalStr }) d 0 .brk 0
      (layout { w := w, rw := rw, smart := smart, ev := Pr.evalStr } d) c' :=
  sound _ (Pr.evalStr_bounded _ _ _) d

/-- run the push/pop events of a stream against a stack of open annotations -/
def bal : List SDoc → List Ann → Option (List Ann)
  | [], st => some st
  | .push a :: r, st => bal r (a :: st)
  | .pop a :: r, b :: st => if a = b then bal r st else none
  | .pop _ :: _, [] => none
  | .text _ :: r, st => bal r st
  | .line _ :: r, st => bal r st

theorem bal_append (x y : List SDoc) (st : List Ann) : bal (x ++ y) st = (bal x st).bind (bal y) := by
  fun_induction bal x st <;> simp [bal, *]

theorem lay_bal {E d i m c o c'} (h : Lay E d i m c o c') : ∀ st, bal o st = some st :=
  h.out_induct (P := fun o => ∀ st, bal o st = some st) (fun _ => rfl) (fun _ _ => rfl) (fun _ _ => rfl)
    (fun ha hb st => by rw [bal_append, ha, Option.bind_some, hb])
    (fun a _ ih st => by simp [bal, bal_append, ih (a :: st)])
theorem layL_bal {E} : ∀ {ds i m c o c'}, LayL E ds i m c o c' → ∀ st, bal o st = some st :=
  fun h => lay_bal h.lay
theorem layF_bal {E} : ∀ {ds i c o c'}, LayF E ds i c o c' → ∀ st, bal o st = some st :=
  fun h => lay_bal (h.lay (m := .brk))

/-- **C04.ann_balanced** — the push/pop events of every emitted stream are well bracketed and all closed. -/
theorem ann_balanced (cfg : Cfg) (hb : cfg.EvBounded) (d : Doc) : bal (layout cfg d) [] = some [] := by
  obtain ⟨c', h⟩ := sound cfg hb d
  exact lay_bal h []

/-- annotations of everything `pformat` prints are well bracketed — no hypothesis -/
theorem ann_balanced_pformat (s : Pr.Settings) (v : Pr.PyVal) : bal (Pr.sdocsM s v) [] = some [] := by
  obtain ⟨c', h⟩ := sound_pformat s v
  exact lay_bal h []

/-- one output line written without any trimming -/
def rawLine (l : List SDoc) : Str := l.flatMap writeSDoc

theorem rstrip_suffix (s : Str) : ∃ ws, s = rstrip s ++ ws ∧ ws.all isSpace = true :=
  ⟨(s.reverse.takeWhile isSpace).reverse, by
    rw [rstrip, ← List.reverse_append, List.takeWhile_append_dropWhile, List.reverse_reverse], by simp [List.all_reverse]⟩

theorem rawLine_nil_of_noText {r : List SDoc} (h1 : r.any isTextEv = false) (h2 : r.any isLineEv = false) :
    rawLine r = [] := by
  refine List.flatMap_eq_nil_iff.mpr fun x hx => ?_
  have h1 := List.any_eq_false.mp h1 x hx
  have h2 := List.any_eq_false.mp h2 x hx
  cases x with
  | text _ => exact absurd rfl h1
  | line _ => exact absurd rfl h2
  | _ => rfl

/-- `stripLastText` keeps every event but the last text fragment, and what follows that one writes nothing -/
theorem trim_line (l : List SDoc) (hl : l.tail.any isLineEv = false) :
    ∃ ws, rawLine l = renderLine l ++ ws ∧ ws.all isSpace = true := by
  unfold renderLine
  -- the branches of `stripLastText`: no event; a text fragment follows; the last text fragment; not a text fragment
  fun_induction stripLastText l with
  | case1 => exact ⟨[], rfl, rfl⟩
  | case2 x r _ ih | case4 x r _ _ ih =>
    have hr : r.tail.any isLineEv = false := by cases r; rfl; exact (Bool.or_eq_false_iff.mp hl).2
    obtain ⟨ws, h1, h2⟩ := ih hr
    exact ⟨ws, by rw [rawLine, List.flatMap_cons, List.flatMap_cons, List.append_assoc, ← h1]; rfl, h2⟩
  | case3 r hr s =>
    obtain ⟨ws, h1, h2⟩ := rstrip_suffix s
    refine ⟨ws, ?_, h2⟩
    rw [rawLine, List.flatMap_cons, List.flatMap_cons, ← rawLine, rawLine_nil_of_noText (by simpa using hr) (by exact hl)]
    simpa [writeSDoc] using h1

/-- **C04.render_trim** — each rendered line (a `line` event followed by events without line breaks, as
`as_lines` produces them) is the untrimmed line minus a suffix of whitespace characters; the indentation,
written by the `line` event itself, is never trimmed. -/
theorem render_trim (x : SDoc) (r : List SDoc) (h : r.any isLineEv = false) :
    ∃ ws, rawLine (x :: r) = renderLine (x :: r) ++ ws ∧ ws.all isSpace = true :=
  trim_line (x :: r) h
end PP.C04
