/-
C19 / C20 (and the state machines of C15, C18): the hand-written models are *stateless apart from* the registry (C15:
`Registry.State`), the default configuration (C18: `Conf.shipped` as updated by `Conf.setDefault`) and cpprint's default style (C16,
not on the pformat path).  That the code has no other state that outlives a call is not something a model can prove about itself; it
is tied to the source instead: `Generated.sharedState` is recomputed from /repo's syntax on every run and must be exactly the
list below.
-/
import PP.Generated
namespace PP.C19

/-- every piece of call-outliving state visible in the package's syntax, and where the models account for it -/
def modelledState : List String := [
  "__init__.py:global:_default_config",            -- Conf.shipped / Conf.setDefault (C18): read by every entry point, written by set_default_config only
  "color.py:classattr:GitHubLightStyle.styles",    -- a pygments style table, never written
  "color.py:global:default_style",                 -- cpprint's palette (set_default_style); pformat does not read it
  "prettyprinter.py:decorator:pretty_dispatch",    -- Registry.State.reg (C15)
  "prettyprinter.py:mutated:_DEFERRED_DISPATCH_BY_NAME",   -- Registry.State.deferred (C15); the one piece of state a print writes (promotion), C15.history_independent
  "prettyprinter.py:mutated:_PREDICATE_REGISTRY",  -- Registry.State.preds (C15)
  "prettyprinter.py:mutated:pretty_dispatch",      -- Registry.State.reg (C15): register() at registration and at promotion
  "extras/ipython.py:mutated:IPython",             -- install(): replaces IPython's display formatter; not on the pformat path
  "extras/python.py:mutated:builtins",             -- install(): sys.displayhook / builtins._ ; not on the pformat path
  "extras/python.py:mutated:sys"]

/-- the package has exactly the call-outliving state the models account for -/
theorem state_inventory : Generated.sharedState = modelledState := rfl

end PP.C19
