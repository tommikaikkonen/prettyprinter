/-
C08 and C17 read off the canonical tokens (which, by `C03.output_tokens`, are the code tokens of every output up to literal
splitting): a subclass instance is the call of its class around exactly the tokens of the underlying built-in value; a
call-style printer shows the callable's name, the positional arguments in order and the keyword arguments in the order
given, each argument exactly as it is printed on its own.
-/
import PP.Proofs.ToksVal
namespace PP
open Doc Pr Tok

namespace C08

/-- list / tuple / set subclass, non-empty, above the depth cut -/
theorem seq_wrapper_tokens (ctx : Ctx) (kind : Nat) (q : QualName) (xs : List PyVal) (tr : Option PyStr.PS)
    (hne : (xs.length == 0) = false) (hz : ctx.depthZero = false) :
    canonW ctx (.seq kind (some q) xs) tr = callToks q [canonW ctx (.seq kind none xs) tr] := by
  simp only [canonW, seqCanon, hne, hz, Bool.false_eq_true, if_false, Option.isNone_some, Option.isNone_none, if_true,
    Option.getD_some]

/-- dict subclass, non-empty, above the depth cut -/
theorem dict_wrapper_tokens (ctx : Ctx) (q : QualName) (kvs : List (PyVal × PyVal)) (tr : Option PyStr.PS)
    (hne : kvs ≠ []) (hm : ctx.maxSeqLen ≠ some 0) (hz : ctx.depthZero = false) :
    canonW ctx (.dict (some q) kvs) tr = callToks q [canonW ctx (.dict none kvs) tr] := by
  have hps : (takeOpt ctx.maxSeqLen (if ctx.sortKeys = true then sortK (canonPairs ctx kvs) else canonPairs ctx kvs)).isEmpty = false := by
    simpa using shownOrder_ne_nil hm (xs := canonPairs ctx kvs) (by rw [canonPairs_eq_map]; exact mt List.map_eq_nil_iff.mp hne)
  simp only [canonW, dictCanon, hz, Bool.false_eq_true, if_false, Option.isNone_some, Option.isNone_none, if_true,
    Option.getD_some, hps, Bool.false_and]

/-- int / float / str / bytes subclass above the depth cut -/
theorem int_wrapper_tokens (ctx : Ctx) (q : QualName) (val : Int) (lit : Str) (tr : Option PyStr.PS) (hz : ctx.depthZero = false) :
    canonW ctx (.int (some q) val lit) tr = callToks q [canonW ctx (.int none val lit) tr] := by
  simp [canonW, hz, wrapToks]

theorem str_wrapper_tokens (ctx : Ctx) (q : QualName) (b : Bool) (s : PyStr.PS) (tr : Option PyStr.PS) (hz : ctx.depthZero = false) :
    canonW ctx (.str (some q) b s) tr = callToks q [canonW ctx (.str none b s) tr] := by
  simp [canonW, hz, strCanon_eq, wrapToks]

end C08

namespace C17

/-- **C17.call_tokens** — a value printed through `pretty_call` / `pretty_call_alt` shows the callable's name, `(`, the
positional arguments in order, the keyword arguments as `name = value` in the order given — each argument with exactly the
tokens it has when printed on its own (in the same context for a hugged sole argument, one level down otherwise) — and `)`. -/
theorem call_tokens (ctx : Ctx) (f : QualName) (args : List PyVal) (kwargs : List (Str × PyVal)) (tr : Option PyStr.PS)
    (hz : ctx.depthLeft.any (· == 0) = false) :
    canonW ctx (.call f args kwargs) tr =
      if hugCall args kwargs then callToks f (canonL ctx args)
      else callToks f (canonL ctx.nested args ++ canonKw ctx.nested kwargs) := by
  simp only [canonW, hz, Bool.false_eq_true, if_false]

/-- the keyword part: `name`, `=`, the value's own tokens -/
theorem kw_tokens (ctx : Ctx) (k : Str) (v : PyVal) (r : List (Str × PyVal)) :
    canonKw ctx ((k, v) :: r) = (cd k ++ [EQ_T] ++ canonW ctx v none) :: canonKw ctx r := by
  simp [canonKw]

end C17
end PP
