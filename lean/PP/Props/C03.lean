/-
C03 — width, ribbon and indent change only the layout, never the content: the code tokens `ctoks` of the output
(Spec/Tokens.lean) stay the same up to `TEq`, the splitting of string literals and parentheses around such a run.
-/
import PP.Proofs.ToksVal
import PP.Props.C04
namespace PP.C03
open PP Doc Pr Tok

theorem evalStr_invariant (cfg : Cfg) (hev : cfg.ev = evalStr) :
    ∀ sp, StrOk sp → ∀ d, cfg.Ev sp d → TInv (fun _ => False) d ∧ TEq (toksOf d) (strCanon sp) := by
  intro sp hsp d ⟨i, c, hd⟩
  subst hd
  rw [hev]
  exact evalStr_tokens sp hsp i c cfg.w cfg.rw

/-- every rendering of the document of `v` in the reference semantics — every layout the engine could ever choose, not
just the ones it does choose — carries the canonical tokens of `v` -/
theorem any_layout_tokens (s : Settings) (v : PyVal) (hw : wfVal v) {i m c o c'}
    (h : Lay s.cfg.Ev (topDoc s.ctx v) i m c o c') : TEq (ctoks o) (canonW s.ctx.norm v none) := by
  obtain ⟨hi, ht, _⟩ := toDocW_ok v s.ctx none none hw
  obtain ⟨hi, ht⟩ := has_topDoc (ctx := s.ctx) ⟨hi, ht⟩
  exact ht ▸ ctoks_lay (P := StrOk) (evalStr_invariant s.cfg rfl) h hi

/-- **C03.output_tokens** — for every well-formed value and all settings, the code tokens of what `pformat` emits are —
up to literal splitting and parentheses around split literals — the canonical tokens `canonW` of the value, which depend
on depth / max_seq_len / sort_dict_keys but not on width, ribbon_width or indent. -/
theorem output_tokens (s : Settings) (v : PyVal) (hw : wfVal v) :
    TEq (ctoks (sdocsM s v)) (canonW s.ctx.norm v none) :=
  have ⟨_, hlay⟩ := C04.sound_pformat s v
  any_layout_tokens s v hw hlay

theorem tokens_of_canon {s1 s2 : Settings} {v1 v2 : PyVal} (h1 : wfVal v1) (h2 : wfVal v2)
    (h : canonW s1.ctx.norm v1 none = canonW s2.ctx.norm v2 none) : TEq (ctoks (sdocsM s1 v1)) (ctoks (sdocsM s2 v2)) :=
  .trans (h ▸ output_tokens s1 v1 h1) (.symm (output_tokens s2 v2 h2))

/-- **C03.layout_invariant** — two `pformat` calls on the same value that differ only in width, ribbon_width and
indent emit the same code tokens up to `TEq`: only whitespace, line breaks, comments' placement, the splitting of string
literals and parentheses around split literals differ. -/
theorem layout_invariant (s1 s2 : Settings) (v : PyVal) (hw : wfVal v)
    (hd : s1.depth = s2.depth) (hm : s1.maxSeqLen = s2.maxSeqLen) (hs : s1.sortKeys = s2.sortKeys) :
    TEq (ctoks (sdocsM s1 v)) (ctoks (sdocsM s2 v)) :=
  tokens_of_canon hw hw (by simp [Settings.ctx, Ctx.norm, hd, hm, hs])

end PP.C03
