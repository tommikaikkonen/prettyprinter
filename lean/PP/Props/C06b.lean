/-
C06, the smart strategy characterised: reason (c) of the property — "would push a following, more deeply indented line past the
page width" — as a statement about the lines the look-ahead walks over (`demands`, `Spec/FitSpec.lean`), for documents without `align`.
-/
import PP.Proofs.SmartSpec
import PP.Props.C06
namespace PP.C06
open PP Doc

/-- **C06.smart_iff_demands** — the smart predicate, asked with budget `a` for the current line, holds exactly when no forced
break starts on a line it walks over and every such line is narrow enough: the current line (the group and what follows it) fits
in `a`, and every following line — the walk goes on only over line breaks indented more than `mn` — fits in the page width minus
its indentation. -/
theorem smart_iff_demands (cfg : Cfg) (mn mw a : Int) (stk : List Triple) (hc : AllClassic0 stk) :
    fitsSmart cfg mn mw a stk = true ↔ ∃ obs, demands cfg mn a 0 stk = some obs ∧ Met obs :=
  fitsSmart_iff_demands cfg mn mw a stk hc a 0 (by simp)

/-- **C06.broken_only_if_smart** — under the smart strategy a group (at column `col`, indentation `i`, page / ribbon leaving `a`
columns) is laid out broken only if
(a) a forced-break document starts on one of the lines the look-ahead walks over, or
(b) the flat text of the group and what follows it on its line needs more than `a` columns, or
(c) a FOLLOWING line needs more than the page width minus its indentation — and the look-ahead reaches a following line only
    through line breaks indented more than `min col i`: that is the property's "following, more deeply indented line". -/
theorem broken_only_if_smart (cfg : Cfg) (hs : cfg.smart = true) (col i : Int) (d : Doc) (r : List Triple)
    (hc : AllClassic0 ((i, .flat, .doc d) :: r))
    (hbrk : fits cfg (min col i) (avail cfg.w cfg.rw col i) ((i, .flat, .doc d) :: r) = false) :
    demands cfg (min col i) (avail cfg.w cfg.rw col i) 0 ((i, .flat, .doc d) :: r) = none
    ∨ ∃ n0 rest, demands cfg (min col i) (avail cfg.w cfg.rw col i) 0 ((i, .flat, .doc d) :: r) = some ((avail cfg.w cfg.rw col i, n0) :: rest)
        ∧ (avail cfg.w cfg.rw col i < (n0 : Int) ∨ ∃ p ∈ rest, p.1 < (p.2 : Int)) := by
  rw [fits_smart hs, ← Bool.not_eq_true, smart_iff_demands _ _ _ _ _ hc] at hbrk
  cases hd : demands cfg (min col i) (avail cfg.w cfg.rw col i) 0 ((i, .flat, .doc d) :: r) with
  | none => exact .inl rfl
  | some obs =>
    obtain ⟨n0, rest, rfl, -⟩ := demands_head hd
    refine .inr ⟨n0, rest, rfl, Decidable.or_iff_not_imp_left.mpr fun h0 => ?_⟩
    -- the first demand is met and not all are: a later one is not
    have : ¬ Met rest := fun hm => hbrk ⟨_, hd, met_cons.mpr ⟨by omega, hm⟩⟩
    simpa only [Met, Classical.not_forall, Int.not_le, exists_prop] using this

/-- **C06.flat_only_if_smart** — conversely: a group the smart strategy lays out flat fits on its line, and so does every
following line the look-ahead walked over -/
theorem flat_only_if_smart (cfg : Cfg) (hs : cfg.smart = true) (col i : Int) (d : Doc) (r : List Triple)
    (hc : AllClassic0 ((i, .flat, .doc d) :: r))
    (hflat : fits cfg (min col i) (avail cfg.w cfg.rw col i) ((i, .flat, .doc d) :: r) = true) :
    ∃ obs, demands cfg (min col i) (avail cfg.w cfg.rw col i) 0 ((i, .flat, .doc d) :: r) = some obs ∧ Met obs := by
  rwa [fits_smart hs, smart_iff_demands _ _ _ _ _ hc] at hflat

/-- non-vacuity, and the bound made visible: `f(` followed by `nest 1 (group(aa line bb) , line ssssssss)` at width 8 — the group
starts at column 2 under indentation 1, so `mn = 1`; the sibling line is indented by 1, which is not MORE than 1: the walk stops at
that line break, the only demand is the current line (`aa bb,` = 6 columns of the 6 left), and the group stays flat -/
example : demands { w := 8, rw := 8 } 1 6 0
    [((1 : Int), Mode.flat, Item.doc (.cat [.text [97, 97], .choice false .hardline (.text [32]), .text [98, 98]])),
     (1, Mode.brk, Item.doc (.text [44])), (1, Mode.brk, Item.doc (.choice false .hardline (.text [32]))),
     (1, Mode.brk, Item.doc (.text [115, 115, 115, 115, 115, 115, 115, 115]))] = some [(6, 6)] := by
  decide +kernel

end PP.C06
