/-
Clauses of the value-level properties C01, C03, C08, C09, C10, C11, C17 that are equations of the printer model M2 at the level of
documents: what `dictDoc`, `seqDoc`, `toDocW`, `withTruncation`, `callDoc`, `bracket` build in one of their branches.  What the printed
text then is rests on C04, C02 and the token theorems (DESIGN.md §5).
-/
import PP.Model.Values
import PP.Proofs.SortK
import PP.Proofs.Guards
namespace PP
open Pr Doc PyStr

namespace C01
theorem insert_perm (x : PairDocs) (xs : List PairDocs) : (insertPD x xs).Perm (x :: xs) := insertK_perm x xs

theorem sorted_perm (xs : List PairDocs) : (sortPDs xs).Perm xs := sortK_perm xs

/-- with `sort_dict_keys = False` the entries are printed in insertion order: `dictDoc` does not touch the order -/
theorem insertion_order (ctx : Ctx) (h : ctx.sortKeys = false) (pds : List PairDocs) :
    (if ctx.sortKeys then sortPDs pds else pds) = pds := by simp [h]
end C01

namespace C08
/-- an instance of a subclass of list / tuple / set is printed as a call of the subclass around exactly the
document the underlying built-in value gets (non-empty, depth not exhausted) -/
theorem wrapper_seq (ctx : Ctx) (kind : Nat) (q : QualName) (len : Nat) (els : List Doc) (tr : Option PS)
    (hlen : (len == 0) = false) (hd : ctx.depthZero = false) :
    seqDoc ctx kind (some q) len els tr =
      buildFncall ctx.indent (generalIdentifier q) [seqDoc ctx kind none len els tr] [] true none := by
  simp [seqDoc, hlen, hd]

/-- the same for int: the literal inside the call is the one the plain int gets -/
theorem wrapper_int (ctx : Ctx) (q : QualName) (n : Int) (lit : Str) (hd : ctx.depthZero = false) :
    toDocW ctx (.int (some q) n lit) none none =
      buildFncall ctx.indent (generalIdentifier q) [toDocW ctx (.int none n lit) none none] [] false none := by
  simp [toDocW, hd, wrapC, nonEmpty?]

/-- the printed document never depends on anything but the class name and the underlying value: the model's
`PyVal` has no field for `__repr__` / `__str__` overrides, and the correspondence checks that the implementation
agrees with it for classes that override them -/
theorem wrapper_shape (ctx : Ctx) (q : QualName) (n : Int) (lit : Str) (hd : ctx.depthZero = false) :
    toDocW ctx (.int (some q) n lit) none none =
      buildFncall ctx.indent (generalIdentifier q) [tk tInt lit] [] false none := by
  simp [toDocW, hd, wrapC, nonEmpty?]
end C08

namespace C09
/-- a comment document is always one `COMMENT_SINGLE` annotation around its lines -/
theorem commentdoc_lines (t : PS) : ∃ d, commentdoc t = .ann (.tok tComment) d := by
  unfold commentdoc; exact ⟨_, rfl⟩

/-- an empty comment text is ignored by pretty_python_value (`if comment:`) -/
theorem empty_comment_ignored (d : Doc) : wrapC (some []) d = d := by simp [wrapC, nonEmpty?]
end C09

namespace C10
/-- with `max_seq_len = None` nothing is truncated and no truncation comment is attached -/
theorem no_limit (len : Nat) (tr : Option PS) (xs : List Doc) :
    withTruncation len none tr = tr ∧ takeOpt none xs = xs := ⟨rfl, rfl⟩

/-- a limit at least as large as the container leaves it alone -/
theorem large_limit (len n : Nat) (h : len ≤ n) (tr : Option PS) (xs : List Doc) (hx : xs.length = len) :
    withTruncation len (some n) tr = tr ∧ takeOpt (some n) xs = xs :=
  have hf : Tok.Fits len (some n) := fun _ e => Option.some.inj e ▸ h
  ⟨Tok.withTruncation_fits hf tr, Tok.takeOpt_fits hf xs hx⟩

end C10

namespace C11
/-- at depth 0 a non-empty list / tuple is replaced by the placeholder of its own bracket type -/
theorem depth_zero_placeholder (ctx : Ctx) (kind : Nat) (len : Nat) (els : List Doc) (tr : Option PS)
    (hk : (kind != 2) = true) (hlen : (len == 0) = false) (hd : ctx.depthZero = true) :
    seqDoc ctx kind none len els tr = .cat [(brackets kind).1, ELLIPSIS, (brackets kind).2] := by
  simp [seqDoc, hlen, hd, hk]

end C11

namespace C17
/-- a call without arguments prints `f()` -/
theorem empty_call (ctx : Ctx) (f : QualName) (h : ctx.depthLeft.any (· == 0) = false) :
    callDoc ctx f false [] [] [] = .cat [generalIdentifier f, LPAREN, RPAREN] := by
  simp [callDoc, h, buildFncall]

end C17

namespace C03
/-- `bracket` indents its content by exactly the `ind` it is given (the container printers pass `ctx.indent`) -/
theorem nests_are_indent (ind : Int) (l c r : Doc) :
    bracket ind l c r = .cat [l, .nest ind (.cat [softline, c]), softline, r] := rfl
end C03

end PP
