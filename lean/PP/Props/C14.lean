/-
C14 — a failing printer is contained at the value it was printing.
-/
import PP.Model.Failures
namespace PP.C14
open PP Fail

def single (k : Nat) (f : Fault) : Nat → Option Fault := fun j => if j = k then some f else none

mutual
/-- where no fault is planned, everything prints in full and nothing is warned about -/
theorem run_noFault (plan : Nat → Option Fault) : ∀ (t : OTree) (st : St),
    (∀ j, st.counter ≤ j → j < st.counter + size t → plan j = none) →
    runT plan t st = (.ok (full t), { st with counter := st.counter + size t })
  | .node cls kids, st, h => by
    simp only [size] at h
    have hk := runKids_noFault plan kids { st with counter := st.counter + 1 } fun j h1 h2 =>
      h j (Nat.le_of_succ_le h1) (by simp only at h2; omega)
    simp only [runT, h st.counter (Nat.le_refl _) (by omega), hk, full, size]
    simp [Nat.add_assoc]
theorem runKids_noFault (plan : Nat → Option Fault) : ∀ (ts : List OTree) (st : St),
    (∀ j, st.counter ≤ j → j < st.counter + sizes ts → plan j = none) →
    runKids plan ts st = (some (fulls ts), { st with counter := st.counter + sizes ts })
  | [], st, _ => by simp [runKids, fulls, sizes]
  | t :: r, st, h => by
    simp only [sizes] at h
    have h1 := run_noFault plan t st fun j a b => h j a (by omega)
    have h2 := runKids_noFault plan r { st with counter := st.counter + size t } fun j a b =>
      h j (Nat.le_trans (Nat.le_add_right ..) a) (by simp only at b; omega)
    simp only [runKids, h1, h2, fulls, sizes]
    simp [Nat.add_assoc]
end

theorem single_ne {k j : Nat} (f : Fault) (h : j ≠ k) : single k f j = none := if_neg h

mutual
/-- a single raising fault at invocation `k`, reached inside `t` -/
theorem run_fault (k exc : Nat) : ∀ (t : OTree) (st : St), st.counter ≤ k → k < st.counter + size t →
    ∃ c', k < c' ∧ runT (single k (.raises exc)) t st =
      (.ok (substAt (k - st.counter) t), { counter := c', warnings := st.warnings ++ [clsAt (k - st.counter) t] })
  | .node cls kids, st, h1, h2 => by
    -- `k = st.counter + i`, and `i` is what `substAt` and `clsAt` recurse on
    obtain ⟨i, rfl⟩ := Nat.exists_eq_add_of_le h1
    rw [Nat.add_sub_cancel_left]
    cases i with
    | zero => exact ⟨st.counter + 1, by omega, by simp [runT, single, substAt, clsAt]⟩
    | succ i =>
      obtain ⟨c', hc, hr⟩ := runKids_fault (st.counter + (i + 1)) exc cls kids { st with counter := st.counter + 1 }
        (by simp only; omega) (by simp only; simp [size] at h2; omega)
      rw [Nat.add_sub_add_left, Nat.add_sub_cancel] at hr
      exact ⟨c', hc, by simp [runT, single_ne, hr, substAt, clsAt]⟩
theorem runKids_fault (k exc d : Nat) : ∀ (ts : List OTree) (st : St), st.counter ≤ k → k < st.counter + sizes ts →
    ∃ c', k < c' ∧ runKids (single k (.raises exc)) ts st =
      (some (substAts (k - st.counter) ts), { counter := c', warnings := st.warnings ++ [clsAts (k - st.counter) ts d] })
  | [], st, h1, h2 => by simp [sizes] at h2; omega
  | t :: r, st, h1, h2 => by
    obtain ⟨i, rfl⟩ := Nat.exists_eq_add_of_le h1
    simp only [sizes] at h2
    simp only [Nat.add_sub_cancel_left, substAts, clsAts]
    by_cases hin : i < size t
    · obtain ⟨c', hc, hr⟩ := run_fault (st.counter + i) exc t st h1 (by omega)
      have hrest := runKids_noFault (single (st.counter + i) (.raises exc)) r
        { counter := c', warnings := st.warnings ++ [clsAt (st.counter + i - st.counter) t] }
        fun j a _ => single_ne _ (by simp only at a; omega)
      rw [Nat.add_sub_cancel_left] at hr hrest
      exact ⟨c' + sizes r, by omega, by simp only [runKids, hr, hrest, hin, if_true]⟩
    · have hhead := run_noFault (single (st.counter + i) (.raises exc)) t st fun j _ b => single_ne _ (by omega)
      obtain ⟨c', hc, hr⟩ := runKids_fault (st.counter + i) exc d r { st with counter := st.counter + size t }
        (by simp only; omega) (by simp only; omega)
      rw [Nat.add_sub_add_left] at hr
      exact ⟨c', hc, by simp only [runKids, hhead, hr, hin, if_false]⟩
end

/-- **C14.contained** — for every tree of objects and every invocation index `k` inside it, if the `k`-th printer
invocation raises (any class derived from Exception): printing still returns, the result is the fault-free print with
exactly that value replaced by its repr, and exactly one warning is issued, naming that value's printer -/
theorem contained (t : OTree) (k exc : Nat) (hk : k < size t) :
    ∃ c', runT (single k (.raises exc)) t {} = (.ok (substAt k t), { counter := c', warnings := [clsAt k t] }) := by
  obtain ⟨c', _, h⟩ := run_fault k exc t {} (by simp) (by simpa using hk)
  exact ⟨c', by simpa using h⟩

/-- without a fault nothing is replaced and nothing is warned about -/
theorem fault_free (t : OTree) : runT (fun _ => none) t {} = (.ok (full t), { counter := size t, warnings := [] }) := by
  have := run_noFault (fun _ => none) t {} (fun _ _ _ => rfl)
  simpa using this

/-- **C14.independent** — the model carries no state from one call to the next: a later call is what it would have
been (the visited set is restored by the try/finally of the F10 repair; see C13.no_residue) -/
theorem independent (p1 p2 : Nat → Option Fault) (t1 t2 : OTree) :
    (runT p2 t2 {}) = (let _ := runT p1 t1 {}; runT p2 t2 {}) := rfl

/-- **C14.bad_return** — a printer returning neither str nor Doc at the top level is reported (ValueError escapes) -/
theorem bad_return (cls : Nat) (kids : List OTree) :
    (runT (single 0 .badReturn) (.node cls kids) {}).1 = .escapes := by
  simp [runT, single]

/-- … and one level down it is contained by the parent's handler: the parent is printed as its repr, with a warning
naming the parent's printer -/
theorem bad_return_nested (cls c2 : Nat) (kids : List OTree) :
    runT (single 1 .badReturn) (.node cls [.node c2 kids]) {} =
      (.ok (.repr (.node cls [.node c2 kids])), { counter := 2, warnings := [cls] }) := by
  simp [runT, runKids, single]

end PP.C14
