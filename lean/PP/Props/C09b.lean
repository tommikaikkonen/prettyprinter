/-
C09 at the level of code tokens: `comment()` annotations change only comments and layout.
-/
import PP.Proofs.Comments
import PP.Props.C03
namespace PP.C09
open PP Doc Pr Tok

/-- **C09.comment_inert** — attaching `comment()` annotations, with any text, to any nodes of a value (elements, dict keys
and values, call arguments, at every depth) does not change a single code token of the output: for every width, ribbon,
indent and max_seq_len, the text printed for `v` and the text printed for `v` with every `comment()` wrapper removed carry
the same tokens up to `TEq` (literal splitting).  Hypotheses: no depth limit (a commented str key takes the depth test that a
bare str key skips — finding K5), and under `sort_dict_keys` comments in dict keys only where the sort key ignores them
(`keysPlain`: around a key and around or inside the elements of a tuple key, which is what fix F22 made of finding K8; a comment
inside any other container used as a key is excluded).  Trailing comments are kept on both sides: they are not token-inert (a
trailing comment adds a comma before the closing bracket; on an empty dict subclass an argument — K7). -/
theorem comment_inert (s : Settings) (v : PyVal) (hw : wfVal v) (hd : s.depth = none)
    (hk : s.sortKeys = false ∨ keysPlain v = true) :
    TEq (ctoks (sdocsM s v)) (ctoks (sdocsM s (dropComments v))) :=
  C03.tokens_of_canon hw (wf_drop v hw) (Tok.comment_inert v s.ctx.norm none hd hk)

/-- the effect of a trailing comment on a non-empty list / tuple / set, exactly: the element tokens followed by a comma
each — which for a one-element tuple is what is printed anyway -/
theorem trailing_adds_comma (els : List (List CT)) (hne : els ≠ []) :
    seqToks (els ++ [[]]) false = seqToks els false ++ [COMMA_T] ∧ seqToks els true = seqToks els false ++ [COMMA_T] := by
  obtain ⟨t, r, rfl⟩ := List.exists_cons_of_ne_nil hne
  exact ⟨by rw [List.cons_append, seqToks_snoc_empty, seqToks_dangle], seqToks_dangle _⟩

end PP.C09
