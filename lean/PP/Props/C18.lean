/-
C18 — all entry points and configuration layers agree.
-/
import PP.Model.Config
import PP.Generated
namespace PP.C18
open PP Pr Conf

/-- **C18.merge_spec** — explicit arguments always override defaults; defaulted ones take the default (all six settings) -/
theorem merge_spec (d : Settings) (e : Explicit) :
    (merge d e).indent = e.indent.getD d.indent ∧ (merge d e).width = e.width.getD d.width ∧
    (merge d e).ribbonWidth = e.ribbonWidth.getD d.ribbonWidth ∧ (merge d e).depth = e.depth.getD d.depth ∧
    (merge d e).maxSeqLen = e.maxSeqLen.getD d.maxSeqLen ∧ (merge d e).sortKeys = e.sortKeys.getD d.sortKeys :=
  ⟨rfl, rfl, rfl, rfl, rfl, rfl⟩

/-- an explicit `None` for depth / max_seq_len is a value, not "unset" -/
theorem explicit_none_is_a_value (d : Settings) :
    (merge d { maxSeqLen := some none }).maxSeqLen = none ∧ (merge d { depth := some none }).depth = none := ⟨rfl, rfl⟩

/-- **C18.set_changes_given** — set_default_config changes exactly the settings it is given … -/
theorem set_changes_given (d : Settings) (u : Explicit) :
    (setDefault d u).width = u.width.getD d.width ∧ (setDefault d u).ribbonWidth = u.ribbonWidth.getD d.ribbonWidth ∧
    (setDefault d u).depth = u.depth.getD d.depth ∧ (setDefault d u).maxSeqLen = u.maxSeqLen.getD d.maxSeqLen ∧
    (setDefault d u).sortKeys = u.sortKeys.getD d.sortKeys ∧ (setDefault d u).indent = d.indent :=
  ⟨rfl, rfl, rfl, rfl, rfl, rfl⟩

/-- … and nothing else: a call that gives nothing is the identity -/
theorem set_nothing (d : Settings) : setDefault d {} = d := rfl

/-- the last value given for a setting in a sequence of set_default_config calls -/
def lastGiven {α} (f : Explicit → Option α) : List Explicit → Option α
  | [] => none
  | u :: r => match lastGiven f r with
    | some x => some x
    | none => f u

theorem getD_lastGiven {α} (get : Settings → α) (f : Explicit → Option α)
    (h : ∀ d u, get (setDefault d u) = (f u).getD (get d)) (us : List Explicit) :
    ∀ d, get (setMany d us) = (lastGiven f us).getD (get d) := by
  induction us with
  | nil => exact fun _ => rfl
  | cons u r ih =>
    intro d
    rw [show setMany d (u :: r) = setMany (setDefault d u) r from rfl, ih, h, lastGiven]
    cases lastGiven f r <;> rfl

/-- **C18.after_sets** — after ANY sequence of set_default_config calls each setting is the last value given
for it (else the value it had before), and `indent` is untouched -/
theorem after_sets (d : Settings) (us : List Explicit) :
    (setMany d us).width = (lastGiven (·.width) us).getD d.width ∧
    (setMany d us).ribbonWidth = (lastGiven (·.ribbonWidth) us).getD d.ribbonWidth ∧
    (setMany d us).depth = (lastGiven (·.depth) us).getD d.depth ∧
    (setMany d us).maxSeqLen = (lastGiven (·.maxSeqLen) us).getD d.maxSeqLen ∧
    (setMany d us).sortKeys = (lastGiven (·.sortKeys) us).getD d.sortKeys ∧
    (setMany d us).indent = d.indent :=
  ⟨getD_lastGiven (·.width) _ (fun _ _ => rfl) us d, getD_lastGiven (·.ribbonWidth) _ (fun _ _ => rfl) us d,
   getD_lastGiven (·.depth) _ (fun _ _ => rfl) us d, getD_lastGiven (·.maxSeqLen) _ (fun _ _ => rfl) us d,
   getD_lastGiven (·.sortKeys) _ (fun _ _ => rfl) us d, by
    induction us generalizing d with
    | nil => rfl
    | cons u r ih => exact ih (setDefault d u)⟩

/-- **C18.entry_points** — pprint writes exactly the text pformat returns followed by `end`; a PrettyPrinter object
constructed with the settings and pretty_repr (registered types, all settings defaulted) produce the pformat text -/
theorem entry_points (us : List Explicit) (e : Explicit) (v : PyVal) (end_ : Str) :
    pprintE us e v end_ = pformatE us e v ++ end_ ∧ prettyPrinterE us e v = pformatE us e v ∧
    prettyReprE us v = pformatE us {} v := ⟨rfl, rfl, rfl⟩

/-- **C18.signatures_agree** — over the tables regenerated from `/repo` on every run: pformat, pprint and cpprint
take the same six settings, these are the keys of `_default_config`, and set_default_config takes all of them but
`indent`. A parameter dropped from one entry point breaks this obligation. -/
theorem signatures_agree :
    Generated.settingsOf_pformat = Generated.settingsOf_pprint ∧
    Generated.settingsOf_pprint = Generated.settingsOf_cpprint ∧
    (Generated.settingsOf_pformat.all fun k => Generated.defaultConfigKeys.contains k) = true ∧
    (Generated.defaultConfigKeys.all fun k => Generated.settingsOf_pformat.contains k) = true ∧
    (Generated.settingsOf_set_default_config.all fun k => Generated.defaultConfigKeys.contains k) = true ∧
    (Generated.defaultConfigKeys.all fun k => k == "indent" || Generated.settingsOf_set_default_config.contains k) = true := by
  decide

/-- the shipped defaults the model starts from are the ones in the source -/
theorem shipped_defaults : Generated.defaultMaxSeqLen = 1000 ∧ Generated.defaultIndent = 4 ∧
    shipped.maxSeqLen = some Generated.defaultMaxSeqLen ∧ shipped.indent = Generated.defaultIndent := ⟨rfl, rfl, rfl, rfl⟩

end PP.C18
