/-
C07 — bundled printers are faithful for standard-library types: what the printer shows, read back with the
constructor's documented semantics, is the original object.
-/
import PP.Model.Std
namespace PP.C07
open PP Pr PP.Std

/-- true of every `a`, since `/` and `%` are Euclidean; the printer applies it to the absolute value -/
theorem parts_value (a : Int) :
    timedeltaValue (a / 86400000000) (a / 1000000 % 86400 / 3600) (a / 1000000 % 86400 / 60 % 60) (a / 1000000 % 86400 % 60)
      (a % 1000000 / 1000) (a % 1000000 % 1000) = a := by
  simp only [timedeltaValue]; omega

/-- **C07.timedelta** — for EVERY timedelta (any sign, incl. zero, min, max, -1 microsecond): the days / hours /
minutes / seconds / milliseconds / microseconds the printer shows — with `days` written as `years * 365 + rest` —
passed to the constructor and negated when the printer prefixes `-`, give back exactly the original duration -/
theorem timedelta (d s u : Int) :
    let total := d * 86400000000 + s * 1000000 + u
    let p := timedeltaParts d s u
    (if p.1 then -1 else 1) *
      timedeltaValue ((p.2.1 / 365) * 365 + p.2.1 % 365) p.2.2.1 p.2.2.2.1 p.2.2.2.2.1 p.2.2.2.2.2.1 p.2.2.2.2.2.2 = total := by
  intro total p
  show (if p.1 then -1 else 1) * _ = total
  simp only [p, timedeltaParts, decide_eq_true_eq, Int.ediv_mul_add_emod, parts_value]
  split <;> omega

/-- the parts shown are in range: they are what `divmod` produces, so dropping the zero ones loses nothing -/
theorem timedelta_ranges (d s u : Int) :
    let p := timedeltaParts d s u
    0 ≤ p.2.1 ∧ 0 ≤ p.2.2.1 ∧ p.2.2.1 < 24 ∧ 0 ≤ p.2.2.2.1 ∧ p.2.2.2.1 < 60 ∧ 0 ≤ p.2.2.2.2.1 ∧ p.2.2.2.2.1 < 60 ∧
    0 ≤ p.2.2.2.2.2.1 ∧ p.2.2.2.2.2.1 < 1000 ∧ 0 ≤ p.2.2.2.2.2.2 ∧ p.2.2.2.2.2.2 < 1000 := by
  intro p
  simp only [p, timedeltaParts, decide_eq_true_eq]
  -- `a`: the absolute value, whose parts these are
  generalize ha : (if d * 86400000000 + s * 1000000 + u < 0 then _ else _) = a
  have : 0 ≤ a := by rw [← ha]; split <;> omega
  omega

theorem find_key_of_mem {α β} [BEq α] [LawfulBEq α] : ∀ {l : List (α × β)} {kv : α × β}, (l.map (·.1)).Nodup → kv ∈ l →
    l.find? (·.1 == kv.1) = some kv
  | g :: r, kv, hnd, h => by
    obtain ⟨hg, hr⟩ := List.nodup_cons.mp hnd
    rcases List.mem_cons.mp h with rfl | h
    · simp
    · have hne : g.1 ≠ kv.1 := fun e => hg (List.mem_map.mpr ⟨kv, h, e.symm⟩)
      rw [List.find?_cons_of_neg (by simpa using hne)]
      exact find_key_of_mem hr h

/-- dropping the leading run of zero fields and defaulting the missing ones to 0 restores every field -/
theorem dropWhile_zero_restores (fields : List (Str × Nat)) (hk : (fields.map (·.1)).Nodup) :
    ∀ kv ∈ fields, lookupNat (fields.dropWhile (fun (_, v) => v == 0)) kv.1 = kv.2 := by
  intro kv hkv
  rw [← List.takeWhile_append_dropWhile (p := fun (x : Str × Nat) => x.2 == 0) (l := fields), List.map_append,
    List.nodup_append] at hk
  rw [← List.takeWhile_append_dropWhile (p := fun (x : Str × Nat) => x.2 == 0) (l := fields)] at hkv
  rcases List.mem_append.mp hkv with h | h
  · -- a dropped field is zero, and its key does not occur among those kept
    have hz : kv.2 = 0 := by simpa using List.all_eq_true.mp List.all_takeWhile kv h
    have hn : (fields.dropWhile fun x => x.2 == 0).find? (·.1 == kv.1) = none :=
      List.find?_eq_none.mpr fun x hx e =>
        hk.2.2 _ (List.mem_map_of_mem h) _ (List.mem_map_of_mem hx) (beq_iff_eq.mp e).symm
    simp [lookupNat, hn, hz]
  · simp [lookupNat, find_key_of_mem hk.2.1 h]

/-- **C07.time_fields** (`time`, and the time part of `datetime`) — for every hour / minute / second / microsecond: the keyword arguments
the printer keeps, read back with the constructor's defaults, are the original four fields -/
theorem time_fields (h mi s us : Nat) :
    let kept := ([(k_microsecond, us), (k_second, s), (k_minute, mi), (k_hour, h)] : List (Str × Nat)).dropWhile (fun (_, v) => v == 0)
    lookupNat kept (k_hour) = h ∧ lookupNat kept (k_minute) = mi ∧ lookupNat kept (k_second) = s ∧
    lookupNat kept (k_microsecond) = us := by
  have hnd : (([(k_microsecond, us), (k_second, s), (k_minute, mi), (k_hour, h)] : List (Str × Nat)).map (·.1)).Nodup := by
    simp only [List.map_cons, List.map_nil]; decide
  have key := dropWhile_zero_restores _ hnd
  exact ⟨key (k_hour, h) (by simp), key (k_minute, mi) (by simp), key (k_second, s) (by simp),
         key (k_microsecond, us) (by simp)⟩

/-- the positional form is used exactly when only year, month, day remain, and it shows them in constructor order -/
theorem datetime_date_only (y mo d : Nat) :
    showDatetime y mo d 0 0 0 0 none 0 = .call (q "datetime.datetime") [intV y, intV mo, intV d] [] := by
  simp [showDatetime]

/-- ChainMap: the empty-call shortcut is taken only for no maps or one empty map -/
theorem chainmap_shortcut (cls : QualName) (maps : List PyVal) (firstEmpty : Bool)
    (h : showChainMap cls maps firstEmpty = .call cls [] []) (hne : maps ≠ []) : maps.length = 1 ∧ firstEmpty = true := by
  unfold showChainMap at h
  split at h
  · rename_i hc; simpa [hne] using hc
  · simp [hne] at h

/-- deque shows maxlen exactly when it is bounded -/
theorem deque_maxlen (cls : QualName) (xs : List PyVal) (n : Nat) :
    showDeque cls xs (some n) = .call cls [.seq 0 none xs] [(k_maxlen, intV n)] ∧
    showDeque cls xs none = .call cls [.seq 0 none xs] [] := ⟨rfl, rfl⟩

end PP.C07
