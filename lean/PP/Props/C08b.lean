/-
C08 / C17, the evaluation clause, on tokens: what is printed for a subclass instance reads back (reader of Spec/Reader.lean)
as the call of the subclass on the reading of the underlying built-in value; what is printed for a call-style object reads
back as that call: the callable's name, the positional arguments in order, then the keyword arguments in the order given.
-/
import PP.Props.C01b
namespace PP
open Doc Pr Tok

namespace C08

/-- what the printed form of a non-empty list / tuple / set subclass instance denotes: `Cls(<the underlying literal>)` -/
theorem seq_denotes (kind : Nat) (q : QualName) (x : PyVal) (xs : List PyVal) :
    erase (.seq kind (some q) (x :: xs)) = .call q.2 [erase (.seq kind none (x :: xs))] := rfl

/-- an empty instance denotes `Cls()` -/
theorem seq_empty_denotes (kind : Nat) (q : QualName) : erase (.seq kind (some q) []) = .call q.2 [] := rfl

theorem dict_denotes (q : QualName) (kv : PyVal × PyVal) (kvs : List (PyVal × PyVal)) :
    erase (.dict (some q) (kv :: kvs)) = .call q.2 [erase (.dict none (kv :: kvs))] := rfl

theorem dict_empty_denotes (q : QualName) : erase (.dict (some q) []) = .call q.2 [] := rfl

/-- a frozenset subclass is printed around a list literal: `Cls([..])` -/
theorem frozenset_denotes (q : QualName) (x : PyVal) (xs : List PyVal) :
    erase (.frozenset (some q) (x :: xs)) = .call q.2 [.list (eraseL (x :: xs))] := rfl

theorem int_denotes (q : QualName) (val : Int) (lit : Str) : erase (.int (some q) val lit) = .call q.2 [erase (.int none val lit)] := rfl

theorem str_denotes (q : QualName) (b : Bool) (s : PyStr.PS) : erase (.str (some q) b s) = .call q.2 [erase (.str none b s)] := rfl

theorem float_denotes (q : QualName) (lit : Str) (n d : Int) :
    erase (.float (some q) 0 lit n d) = .call q.2 [erase (.float none 0 lit n d)] := rfl

/-- inf / nan of a float subclass: `Cls('inf')` — the class applied to the string, as `float('inf')` itself -/
theorem float_special_denotes (q : QualName) (kind : Nat) (hk : kind ≠ 0) (lit : Str) (n d : Int) :
    erase (.float (some q) kind lit n d) = .call q.2 [.str false (floatName kind)] := by
  simp [erase, floatR, hk]

/-- **C08.output_reads_back** — the printed text of a subclass instance (any of the nine bases, nested values of the readable
fragment inside) at every width / ribbon / indent reads back, up to literal splitting, to what `seq_denotes` … `float_denotes`
say: the call of the subclass's name on the underlying value. -/
theorem output_reads_back (s : Settings) (v : PyVal) (hw : wfVal v) (hin : inRd v = true)
    (hd : s.depth = none) (hm : s.maxSeqLen = none) (hs : s.sortKeys = false) :
    ∃ ts, TEq (ctoks (sdocsM s v)) ts ∧ parseV (need v) ts = some (erase v, []) :=
  C01.output_reads_back' s v hw hin hd hm hs

end C08

namespace C17

/-- what the printed form of a call-style object denotes: the callable's name applied to the positional arguments in order,
followed by the keyword arguments `name = value` in the order given -/
theorem call_denotes (f : QualName) (args : List PyVal) (kwargs : List (Str × PyVal)) (hn : okName f.2 = true) :
    erase (.call f args kwargs) = .call f.2 (eraseL args ++ eraseK kwargs) := by
  simp [erase, okName_not_fsetLit f args kwargs hn, callR]

theorem call_inRd (f : QualName) (args : List PyVal) (kwargs : List (Str × PyVal)) (hn : okName f.2 = true) :
    inRd (.call f args kwargs) = (inRdL args && inRdK kwargs) := by
  simp [inRd, hn]

theorem kwargs_denote (k : Str) (v : PyVal) (r : List (Str × PyVal)) : eraseK ((k, v) :: r) = .kwarg k (erase v) :: eraseK r := rfl

/-- **C17.output_reads_back** — evaluating the printed text performs that call: at every width / ribbon / indent the output
reads back, up to literal splitting, to `call_denotes`. -/
theorem output_reads_back (s : Settings) (f : QualName) (args : List PyVal) (kwargs : List (Str × PyVal))
    (hw : wfVal (.call f args kwargs)) (hin : inRd (.call f args kwargs) = true) (hn : okName f.2 = true)
    (hd : s.depth = none) (hm : s.maxSeqLen = none) (hs : s.sortKeys = false) :
    ∃ ts, TEq (ctoks (sdocsM s (.call f args kwargs))) ts ∧
      parseV (need (.call f args kwargs)) ts = some (.call f.2 (eraseL args ++ eraseK kwargs), []) := by
  have := C01.output_reads_back' s (.call f args kwargs) hw hin hd hm hs
  rwa [call_denotes f args kwargs hn] at this

end C17
end PP
