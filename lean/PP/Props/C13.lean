/-
C13 — cycles are cut exactly at back-references; shared substructure prints in full; no residue.
-/
import PP.Model.Graph
namespace PP.C13
open PP Pr Graph

/-- **C13.marker_iff_on_path** — a container is replaced by a recursion marker exactly when it is reached again while
it is still being printed (it is on the current path), and nowhere else -/
theorem marker_iff_on_path (g : G) (path : List Nat) (i : Nat) (h : i < g.size) :
    (unfold g path i = .opaque (markerText g[i].kind g[i].idText) ∧ path.contains i = true) ∨
    (unfold g path i = mkNode g[i].kind (unfoldKids g (i :: path) g[i].kids) ∧ path.contains i = false) := by
  rw [unfold, dif_pos h]
  cases path.contains i <;> simp

/-- **C13.shared_printed_in_full** — an object that is not being printed right now is printed in full, however often
it occurs (shared, acyclic substructure never yields a marker) -/
theorem shared_printed_in_full (g : G) (path : List Nat) (i : Nat) (h : i < g.size) (hv : path.contains i = false) :
    unfold g path i = mkNode g[i].kind (unfoldKids g (i :: path) g[i].kids) := by
  rcases marker_iff_on_path g path i h with ⟨_, h'⟩ | ⟨h', _⟩
  · rw [hv] at h'; cases h'
  · exact h'

/-- the marker names the type and the identity of the object -/
theorem marker_text (k : Nat) (idText : Str) :
    ∃ pre, markerText k idText = pre ++ kindName k ++ [32, 119, 105, 116, 104, 32, 105, 100, 61] ++ idText ++ [62] :=
  ⟨_, rfl⟩

/-- **C13.no_residue** — `unfold` is a total function of (graph, path, node) — its termination proof is
the well-founded recursion on the number of objects not yet on the path — and the text of a print is a function of
the graph alone: printing the same or another value afterwards gives what a first call gives -/
theorem no_residue (s : Settings) (g g' : G) (r r' : Nat) :
    (let _first := pformatG s g r; pformatG s g' r') = pformatG s g' r' := rfl

end PP.C13
