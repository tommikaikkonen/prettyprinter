/-
C12 — printing terminates and its work grows polynomially.
Termination: every function of the model is total — Lean accepts each definition only with its termination proof
(`termination_by` clauses of `fitsFast`, `fitsSmart`, `run` and their counting versions in Model/Cost.lean, of `PyStr.go`,
`PyStr.replaceAll`, `Pr.splitLinesAux`, `Graph.unfold` / `Graph.unfoldKids`, and on the specification side of `PyStr.unescape`,
`fitsE`, `scanE`, `demands`; everything else is structural recursion).  Work: the bounds below.
-/
import PP.Model.Cost
import PP.Proofs.StrLines
-- `2 ^ n` in `commented_dict_exponential` is the power of Mathlib's `Monoid ℕ`; nothing else of Mathlib is used
import Mathlib.Algebra.Group.Nat.Defs
import PP.Proofs.SizeVal
namespace PP.C12
open PP Doc Pr

/-- the counting predicate computes the same answer as the predicate of the model -/
theorem fitsFastC_fst (cfg : Cfg) (mw left : Int) (stk : List Triple) :
    (fitsFastC cfg mw left stk).1 = fitsFast cfg mw left stk := by
  fun_induction fitsFast cfg mw left stk <;> unfold fitsFastC
  -- by hand: here the stack is unknown, and `simp` would go through every branch of the match on it before it looks at the test
  case case1 h => rw [if_pos h]
  all_goals simp only [*, if_false]

theorem count_step {x : Bool × Nat} {b n s' s} (e : x = (b, n)) (ih : x.2 ≤ s' + 1) (h : s' < s) :
    (b, n + 1).2 ≤ s + 1 := by
  subst e; exact Nat.succ_le_succ (Nat.le_trans ih h)

/-- **C12.fits_linear** — one lookahead costs at most (total size of the stack it looks at) + 1 iterations:
every iteration but the last leaves a stack of smaller `stkSize` -/
theorem fits_linear (cfg : Cfg) (mw left : Int) (stk : List Triple) :
    (fitsFastC cfg mw left stk).2 ≤ stkSize stk + 1 := by
  fun_induction fitsFastC cfg mw left stk
  case case1 | case2 | case10 | case11 => exact Nat.le_add_left 1 _
  all_goals
    rename_i e ih
    refine count_step e ih ?_
    simp +arith only [↓stkSize_pick, ↓stkSize_alignAt, ↓stkSize_evC, stkSize, Item.size, Doc.size, sizesF_eq,
      stkSize_pushAll]

/-- the same for the smart lookahead: however many lines it looks ahead, every iteration consumes stack -/
theorem fits_smart_linear (cfg : Cfg) (mn mw left : Int) (stk : List Triple) :
    (fitsSmartC cfg mn mw left stk).2 ≤ stkSize stk + 1 := by
  fun_induction fitsSmartC cfg mn mw left stk
  case case1 | case2 | case10 | case12 => exact Nat.le_add_left 1 _
  all_goals
    rename_i e ih
    refine count_step e ih ?_
    simp +arith only [↓stkSize_pick, ↓stkSize_alignAt, ↓stkSize_evC, stkSize, Item.size, Doc.size, sizesF_eq,
      stkSize_pushAll]

theorem fitsSmartC_fst (cfg : Cfg) (mn mw left : Int) (stk : List Triple) :
    (fitsSmartC cfg mn mw left stk).1 = fitsSmart cfg mn mw left stk := by
  fun_induction fitsSmart cfg mn mw left stk <;> unfold fitsSmartC
  case case1 h => rw [if_pos h]
  all_goals simp only [*, if_true, if_false]

theorem quad_step {a n c w : Nat} (hw : w ≤ (a + 2) * (a + 2)) (ha : a + 1 ≤ n) (hc : c ≤ 2 * n + 3) :
    c + w ≤ (n + 2) * (n + 2) := by
  have h1 : (a + 2) * (a + 2) ≤ (n + 1) * (n + 1) := Nat.mul_le_mul (Nat.succ_le_succ ha) (Nat.succ_le_succ ha)
  have h2 : (n + 2) * (n + 2) = 2 * n + 3 + (n + 1) * (n + 1) := by simp +arith only [Nat.add_mul, Nat.mul_add]
  exact h2 ▸ Nat.add_le_add hc (Nat.le_trans hw h1)

/-- **C12.machine_quadratic** — the whole layout of a stack costs at most (size + 2)² units: every iteration of
`best_layout` strictly shrinks the stack's total size, and the lookaheads it starts (one per group, two per fill step)
cost at most that size each (`quad_step`).  Holds for every document, width, ribbon and both strategies. -/
theorem machine_quadratic (cfg : Cfg) (stk : List Triple) (col : Int) :
    runW cfg stk col ≤ (stkSize stk + 2) * (stkSize stk + 2) := by
  fun_induction runW cfg stk col
  case case1 => simp [stkSize]
  all_goals
    rename_i ih
    refine quad_step ih (Nat.succ_le_of_lt ?_) ?_
    · simp +arith only [↓stkSize_pick, ↓stkSize_alignAt, ↓stkSize_evC, stkSize, Item.size, Doc.size, sizesF_eq, sizes,
        List.length_cons, stkSize_pushAll]
    · simp +arith only [stkSize, Item.size, Doc.size, sizesF_eq, sizes, List.length_cons]

mutual
/-- number of nodes of a value -/
def vsize : PyVal → Nat
  | .commented v _ => 1 + vsize v
  | .trailing v _ => 1 + vsize v
  | .seq _ _ xs => 1 + vsizeL xs
  | .frozenset _ xs => 2 + vsizeL xs
  | .dict _ kvs => 1 + vsizeKV kvs
  | .call _ args kwargs => 1 + vsizeL args + vsizeKw kwargs
  | _ => 1
def vsizeL : List PyVal → Nat
  | [] => 0
  | v :: r => vsize v + vsizeL r
def vsizeKV : List (PyVal × PyVal) → Nat
  | [] => 0
  | (k, v) :: r => vsize k + vsize v + vsizeKV r
def vsizeKw : List (Str × PyVal) → Nat
  | [] => 0
  | (_, v) :: r => vsize v + vsizeKw r
end

mutual
/-- no dict value carries a comment, at any level -/
def noCommentedDictValue : PyVal → Bool
  | .commented v _ => noCommentedDictValue v
  | .trailing v _ => noCommentedDictValue v
  | .seq _ _ xs => ncdvL xs
  | .frozenset _ xs => ncdvL xs
  | .dict _ kvs => ncdvKV kvs
  | .call _ args kwargs => ncdvL args && ncdvKw kwargs
  | _ => true
def ncdvL : List PyVal → Bool
  | [] => true
  | v :: r => noCommentedDictValue v && ncdvL r
def ncdvKV : List (PyVal × PyVal) → Bool
  | [] => true
  | (k, v) :: r => noCommentedDictValue k && noCommentedDictValue v && !hasComment v && ncdvKV r
def ncdvKw : List (Str × PyVal) → Bool
  | [] => true
  | (_, v) :: r => noCommentedDictValue v && ncdvKw r
end

mutual
/-- **C12.build_linear_partial** — without commented dict values, building the document takes at most one printer
invocation per node of the value (incl. values that carry comments at every level of lists, tuples, sets, calls and
dict *keys*) -/
theorem build_linear_partial : ∀ (v : PyVal), noCommentedDictValue v = true → pyCalls v ≤ vsize v
  | .commented v _, h => Nat.le_trans (build_linear_partial v h) (Nat.le_add_left _ 1)
  | .trailing v _, h => Nat.le_trans (build_linear_partial v h) (Nat.le_add_left _ 1)
  | .seq _ _ xs, h => Nat.add_le_add_left (buildL xs h) 1
  | .frozenset _ xs, h => Nat.add_le_add_left (buildL xs h) 2
  | .dict _ kvs, h => Nat.add_le_add_left (buildKV kvs h) 1
  | .call _ args kw, h =>
    have h : ncdvL args = true ∧ ncdvKw kw = true := Bool.and_eq_true_iff.mp h
    Nat.add_le_add (Nat.add_le_add_left (buildL args h.1) 1) (buildKw kw h.2)
  | .int .., _ | .float .., _ | .bool _, _ | .none, _ | .ellipsis, _ | .str .., _ | .opaque _, _ | .timedelta .., _
  | .ident _, _ | .path .., _ => Nat.le_refl 1
theorem buildL : ∀ (xs : List PyVal), ncdvL xs = true → pyCallsL xs ≤ vsizeL xs
  | [], _ => Nat.le_refl 0
  | v :: r, h =>
    have h : noCommentedDictValue v = true ∧ ncdvL r = true := Bool.and_eq_true_iff.mp h
    Nat.add_le_add (build_linear_partial v h.1) (buildL r h.2)
theorem buildKV : ∀ (kvs : List (PyVal × PyVal)), ncdvKV kvs = true → pyCallsKV kvs ≤ vsizeKV kvs
  | [], _ => Nat.le_refl 0
  | (k, v) :: r, h => by
    have h : (noCommentedDictValue k && noCommentedDictValue v && !hasComment v && ncdvKV r) = true := h
    simp only [Bool.and_eq_true, Bool.not_eq_true'] at h
    -- the value is not printed a second time
    show pyCalls k + pyCalls v + (if hasComment v = true then pyCalls v else 0) + pyCallsKV r ≤ vsize k + vsize v + vsizeKV r
    rw [h.1.2, if_neg Bool.false_ne_true, Nat.add_zero]
    exact Nat.add_le_add (Nat.add_le_add (build_linear_partial k h.1.1.1) (build_linear_partial v h.1.1.2)) (buildKV r h.2)
theorem buildKw : ∀ (kw : List (Str × PyVal)), ncdvKw kw = true → pyCallsKw kw ≤ vsizeKw kw
  | [], _ => Nat.le_refl 0
  | (_, v) :: r, h =>
    have h : noCommentedDictValue v = true ∧ ncdvKw r = true := Bool.and_eq_true_iff.mp h
    Nat.add_le_add (build_linear_partial v h.1) (buildKw r h.2)
end

/-- **C12.commented_dict_exponential** (known finding K3) — the full statement is FALSE for the code as it is: a dict
value carrying a comment is printed twice at every level (prettyprinter.py:1477), so `n` nested commented dict values
need at least 2ⁿ printer invocations -/
theorem commented_dict_exponential : ∀ n, 2 ^ n ≤ pyCalls (nestedCommentedDict n)
  | 0 => Nat.le_refl 1
  | n + 1 => by
    have ih := commented_dict_exponential n
    have hc : hasComment (.commented (nestedCommentedDict n) (asciiPS [99])) = true := by cases n <;> rfl
    show 2 ^ (n + 1) ≤ 1 + (1 + pyCalls (nestedCommentedDict n) +
      (if hasComment (.commented (nestedCommentedDict n) (asciiPS [99])) = true then pyCalls (nestedCommentedDict n) else 0) + 0)
    rw [hc, if_pos rfl, Nat.pow_succ]; omega

/-- the splitter produces at most one piece per character: the evaluated string document is linear in the string -/
theorem string_pieces_linear (isBytes slash : Bool) (maxLen : Nat) (hpos : 0 < maxLen) (q : Nat) (s : PyStr.PS) :
    (PyStr.strToLines isBytes slash maxLen hpos q s).length ≤ s.length :=
  PyStr.strToLines_count isBytes slash maxLen hpos q s

end PP.C12

namespace PP.C12
open PP Doc Pr Tok

/-- **C12.doc_linear** — the document the printers build for a well-formed value, with any comments, settings and nesting,
has size (in the measure the machine's cost is stated in) at most the weight `wt v` of the value + 10: linear in the number
of nodes, the lengths of the strings (64 per character, the bound of the string evaluator) and the lengths of the
comment texts (9 per character).  Commented dict values are *not* an exception here: the value's two renderings sit in
the two alternatives of one choice and are measured once — the exponential of finding K3 is in *building* the document
(`C12.commented_dict_exponential`), not in its size. -/
theorem doc_linear (ctx : Ctx) (v : PyVal) (hw : wfVal v) : rsize (topDoc ctx v) ≤ wt v + 10 := by
  have _ := hw  -- not needed: the bound holds of every value
  exact rsize_topDoc ctx v

/-- **C12.layout_quadratic_in_value** — the work of the layout machine (loop iterations plus the lookaheads it starts) on
the document of a value is at most `(wt v + 12)²`, at every width, ribbon, indent, depth, max_seq_len and sort setting. -/
theorem layout_quadratic_in_value (s : Settings) (v : PyVal) (hw : wfVal v) :
    runW s.cfg [(0, .brk, .doc (topDoc s.ctx v).normalize)] 0 ≤ (wt v + 12) * (wt v + 12) := by
  have h : stkSize [(0, Mode.brk, Item.doc (topDoc s.ctx v).normalize)] + 2 ≤ wt v + 12 :=
    Nat.add_le_add_right (Nat.le_trans (size_normalize _) (doc_linear s.ctx v hw)) 2
  exact Nat.le_trans (machine_quadratic ..) (Nat.mul_le_mul h h)

end PP.C12
