/-
C05 — a group laid out on one line never overflows the page or the ribbon.
-/
import PP.Proofs.Sim
namespace PP.C05
open PP Doc

/-- **C05.rest_of_line** — in *every* machine state `(stk, col)` over classic documents (text, concat, nest,
group, line, softline, hardline, always_break, annotate, align) whose top item is a group at indentation `i`, for every
page width and ribbon width and both strategies (`align`, hence `hang`, is in the algebra: what it evaluates to at the
current column is normalised and classic again, and the predicate reads it the same at every column): if the machine lays the group out flat (the fitting predicate
holds), then everything it emits up to its next line break — the group *and* whatever follows it on that
line — ends within the page width and within the ribbon measured from the group's indentation.
(Reachable states of `layout` are such states; the statement needs no reachability hypothesis.) -/
theorem rest_of_line (cfg : Cfg) (col i : Int) (m : Mode) (d : Doc) (r : List Triple)
    (hc : AllClassic ((i, m, .doc (.group d)) :: r))
    (hfit : fits cfg (min col i) (avail cfg.w cfg.rw col i) ((i, .flat, .doc d) :: r) = true) :
    col + firstLine (run cfg ((i, m, .doc (.group d)) :: r) col) ≤ cfg.w ∧
    col + firstLine (run cfg ((i, m, .doc (.group d)) :: r) col) ≤ i + cfg.rw := by
  have hE := fits_imp_fitsE (by simpa using hc) hfit
  have key := sim cfg _ col (avail cfg.w cfg.rw col i) hc (by simpa [fitsE, fitsE_nonneg hE] using hE)
  unfold avail at key
  omega

/-- the machine really does lay the group out flat exactly when the predicate holds (definition of `run`) -/
theorem flat_iff_fits (cfg : Cfg) (col i : Int) (m : Mode) (d : Doc) (r : List Triple) :
    run cfg ((i, m, .doc (.group d)) :: r) col =
      run cfg ((i, modeOf (fits cfg (min col i) (avail cfg.w cfg.rw col i) ((i, .flat, .doc d) :: r)), .doc d) :: r) col := by
  simp only [run]

/-- non-vacuity: a concrete classic state in which the group is laid out flat -/
example : AllClassic [((0 : Int), Mode.brk, Item.doc (.group (.cat [.text [97], .choice false .hardline (.text [32]), .text [98]])))] := by
  simp

/-- non-vacuity with `align`: a group holding a hanging block, laid out flat at width 20 (and the premise computed) -/
example : AllClassic [((0 : Int), Mode.brk, Item.doc (.group (.cat [.text [97], .align (.nest 2 (.cat [.choice false .hardline (.text [32]), .text [98]]))])))] := by
  simp

example : fits { w := 20, rw := 20 } 0 20 [((0 : Int), Mode.flat, Item.doc (.cat [.text [97], .align (.nest 2 (.cat [.choice false .hardline (.text [32]), .text [98]]))]))] = true := by
  decide +kernel

end PP.C05
