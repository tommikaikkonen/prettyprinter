/-
C10 / C11 (and the sorted order of C01) at the level of code tokens.  `shown ctx v` (Spec/Shown.lean) is the value a reader
of the output sees.  Last clauses of C10 / C11: a limit that does not bite changes nothing.
-/
import PP.Proofs.NoBite
import PP.Props.C03
namespace PP.Limits
open PP Doc Pr Tok

/-- the settings whose context is `s.ctx.free` -/
def free (s : Settings) : Settings := { s with depth := none, maxSeqLen := none, sortKeys := false }

/-- **shown_canon** — printing `v` under depth / max_seq_len / sort settings has exactly the canonical tokens of printing
the shown value with no limit and no sorting.  `max_seq_len = 0` is outside the property (N ≥ 1); `timedelta` inside a
depth-limited value is excluded (its fields are cut one level down, which `shown` does not express). -/
theorem shown_canon (ctx : Ctx) (v : PyVal) (tr : Option PyStr.PS) (h0 : ctx.maxSeqLen ≠ some 0)
    (htd : ctx.depthLeft = none ∨ noTd v = true) :
    canonW ctx v tr = canonW ctx.free (shown ctx v) tr := shown_ok v ctx tr h0 htd

/-- **C10 / C11: limits_tokens** — the text printed for `v` with `depth = d`, `max_seq_len = N ≥ 1` and any sort flag, at
any width / ribbon / indent, carries the same code tokens (up to `TEq`) as the text printed for the shown value with no
limits: exactly the first N elements of every container in iteration (or sorted) order, a trailing comment exactly where
something was dropped, placeholders exactly at the depth cut, everything above the cut as without a limit. -/
theorem limits_tokens (s : Settings) (v : PyVal) (hw : wfVal v) (h0 : s.maxSeqLen ≠ some 0)
    (htd : s.depth = none ∨ noTd v = true) :
    TEq (ctoks (sdocsM s v)) (ctoks (sdocsM (free s) (shown s.ctx.norm v))) :=
  C03.tokens_of_canon (s2 := free s) hw (wf_shown v _ hw) (shown_ok v s.ctx.norm none h0 htd)

/-- the settings whose context is `s.ctx.unlim` -/
def unlimited (s : Settings) : Settings := { s with depth := none, maxSeqLen := none }

/-- **C10 / C11: limit_that_does_not_bite** — if `depth` exceeds the number of levels the printers descend into `v`
(`Tok.levels`) and `max_seq_len ≥ 1` is at least the length of every container in `v` (`Tok.lenOk`), then the output has
the same code tokens as with `depth = None` and `max_seq_len = None`, at any width / ribbon / indent and either sort
flag: no truncation comment's comma, no placeholder, nothing dropped. -/
theorem limit_that_does_not_bite (s : Settings) (v : PyVal) (hw : wfVal v)
    (hd : s.depth = none ∨ ∃ d, s.depth = some d ∧ levels v < d ∧ noTd v = true)
    (hl : s.maxSeqLen = none ∨ ∃ m, s.maxSeqLen = some m ∧ m ≠ 0 ∧ lenOk m v = true) :
    TEq (ctoks (sdocsM s v)) (ctoks (sdocsM (unlimited s) v)) := by
  have h0 : s.maxSeqLen ≠ some 0 := by
    rcases hl with h | ⟨m, h, hm0, _⟩
    · simp [h]
    · simp [h, hm0]
  -- both outputs carry the tokens of the same shown value, printed without limits
  have h1 := limits_tokens s v hw h0 (hd.imp_right fun ⟨_, _, _, hn⟩ => hn)
  have h2 := limits_tokens (unlimited s) v hw nofun (.inl rfl)
  rw [shown_unlim v s.ctx.norm (hd.imp_right fun ⟨d, h, hlt, _⟩ => ⟨d, h, hlt⟩) (hl.imp_right fun ⟨m, h, _, hm⟩ => ⟨m, h, hm⟩)] at h1
  exact h1.trans h2.symm

end PP.Limits
