/-
C06, the "in particular" clause at the level of the decision: a wider page or ribbon never turns a flat group into a broken one.
The smart look-ahead's demands (`Spec/FitSpec.lean`) only ever get more budget.
-/
import PP.Props.C06b
namespace PP.C06
open PP Doc

theorem avail_mono {w w' rw rw' : Int} (hw : w ≤ w') (hr : rw ≤ rw') (col i : Int) : avail w rw col i ≤ avail w' rw' col i := by
  unfold avail; omega

/-- the demands of the smart look-ahead under a wider page and a larger budget for the current line: the same lines, the same
needs, budgets at least as large -/
theorem demands_mono (cfg cfg' : Cfg) (hw : cfg.w ≤ cfg'.w) (mn budget : Int) (acc : Nat) (stk : List Triple)
    (budget' : Int) (hb : budget ≤ budget') (obs : List (Int × Nat)) (h : demands cfg mn budget acc stk = some obs) :
    ∃ obs', demands cfg' mn budget' acc stk = some obs' ∧ (Met obs → Met obs') := by
  fun_induction demands cfg mn budget acc stk generalizing budget' obs
  case case9 | case14 | case15 => cases h    -- `always_break`, `align`, a string: no demands
  case case1 budget acc | case11 budget acc _ _ _ _ =>
    -- the walk ends here: one demand, for the current line
    cases h
    refine ⟨[(budget', acc)], by simp only [demands, *, if_false], ?_⟩
    simp only [Met, List.mem_singleton, forall_eq]; omega
  case case10 budget acc i m r hi ih =>
    -- past a line break: the following lines get the wider page's budget
    obtain ⟨o, hd, rfl⟩ := Option.map_eq_some_iff.mp h
    obtain ⟨o', h1, h2⟩ := ih (cfg'.w - i) (by omega) o hd
    refine ⟨(budget', acc) :: o', by simp [demands, hi, h1], ?_⟩
    simp only [met_cons]
    exact fun hm => ⟨by omega, h2 hm.2⟩
  -- every other document: the same step under both configurations
  all_goals rename_i ih; unfold demands; exact ih budget' hb obs h

/-- **C06.fits_mono_smart** — the smart predicate, in one machine state over documents without `align`: accepted with page width `w`
and budget `a` ⇒ accepted with every `w' ≥ w` and `a' ≥ a` -/
theorem fits_mono_smart (cfg cfg' : Cfg) (hs : cfg.smart = true) (hs' : cfg'.smart = true) (hw : cfg.w ≤ cfg'.w)
    (mn a a' : Int) (ha : a ≤ a') (stk : List Triple) (hc : AllClassic0 stk)
    (h : fits cfg mn a stk = true) : fits cfg' mn a' stk = true := by
  rw [fits_smart hs, smart_iff_demands _ _ _ _ _ hc] at h
  obtain ⟨obs, hd, hm⟩ := h
  obtain ⟨obs', hd', hm'⟩ := demands_mono cfg cfg' hw mn a 0 stk a' ha obs hd
  rw [fits_smart hs', smart_iff_demands _ _ _ _ _ hc]
  exact ⟨obs', hd', hm' hm⟩

/-- **C06.fits_mono_fast** — the one-line predicate, all classic documents (incl. `align` / `hang`) -/
theorem fits_mono_fast (cfg cfg' : Cfg) (hs : cfg.smart = false) (hs' : cfg'.smart = false)
    (mn a a' : Int) (ha : a ≤ a') (stk : List Triple) (hc : AllClassic stk)
    (h : fits cfg mn a stk = true) : fits cfg' mn a' stk = true := by
  rw [fits_fast hs, fits_iff_spec _ _ _ _ hc] at h
  obtain ⟨h0, n, hn, hle⟩ := h
  rw [fits_fast hs', fits_iff_spec _ _ _ _ hc]
  exact ⟨by omega, n, hn, by omega⟩

/-- **C06.wider_keeps_flat** — the "in particular" clause at the level of the decision: in the same machine state (the group `d` on
top of `r`, indentation `i`, output column `col`), a group that `best_layout` lays out flat at (width, ribbon) is laid out flat at
every (width', ribbon') at least as large; so widening the page can only turn broken groups into flat ones, never the reverse.
Smart strategy (what `pformat` uses), documents without `align`. -/
theorem wider_keeps_flat (cfg cfg' : Cfg) (hs : cfg.smart = true) (hs' : cfg'.smart = true)
    (hw : cfg.w ≤ cfg'.w) (hr : cfg.rw ≤ cfg'.rw) (col i : Int) (d : Doc) (r : List Triple)
    (hc : AllClassic0 ((i, .flat, .doc d) :: r))
    (hflat : fits cfg (min col i) (avail cfg.w cfg.rw col i) ((i, .flat, .doc d) :: r) = true) :
    fits cfg' (min col i) (avail cfg'.w cfg'.rw col i) ((i, .flat, .doc d) :: r) = true :=
  fits_mono_smart cfg cfg' hs hs' hw _ _ _ (avail_mono hw hr col i) _ hc hflat

/-- the same under the fast strategy, for all classic documents -/
theorem wider_keeps_flat_fast (cfg cfg' : Cfg) (hs : cfg.smart = false) (hs' : cfg'.smart = false)
    (hw : cfg.w ≤ cfg'.w) (hr : cfg.rw ≤ cfg'.rw) (col i : Int) (d : Doc) (r : List Triple)
    (hc : AllClassic ((i, .flat, .doc d) :: r))
    (hflat : fits cfg (min col i) (avail cfg.w cfg.rw col i) ((i, .flat, .doc d) :: r) = true) :
    fits cfg' (min col i) (avail cfg'.w cfg'.rw col i) ((i, .flat, .doc d) :: r) = true :=
  fits_mono_fast cfg cfg' hs hs' _ _ _ (avail_mono hw hr col i) _ hc hflat

/-- a group whose flat text and what follows it on the line needs `n` columns, with no forced break on any line the look-ahead walks
over and every following line within the page, is flat as soon as `n` columns are available: the threshold `L` of the property -/
theorem flat_if_enough (cfg : Cfg) (hs : cfg.smart = true) (col i : Int) (d : Doc) (r : List Triple)
    (hc : AllClassic0 ((i, .flat, .doc d) :: r)) (n0 : Nat) (rest : List (Int × Nat))
    (hd : demands cfg (min col i) (avail cfg.w cfg.rw col i) 0 ((i, .flat, .doc d) :: r) = some ((avail cfg.w cfg.rw col i, n0) :: rest))
    (hn : (n0 : Int) ≤ avail cfg.w cfg.rw col i) (hrest : Met rest) :
    fits cfg (min col i) (avail cfg.w cfg.rw col i) ((i, .flat, .doc d) :: r) = true := by
  rw [fits_smart hs, smart_iff_demands _ _ _ _ _ hc]
  exact ⟨_, hd, met_cons.mpr ⟨hn, hrest⟩⟩

/-- non-vacuity: `group(aa line bb)` at column 0 is accepted at width 5 (and so at 6, 7, …) and rejected at width 4 -/
example : fits { w := 5, rw := 5 } 0 (avail 5 5 0 0) [(0, .flat, .doc (.cat [.text [97, 97], line, .text [98, 98]]))] = true := by decide +kernel
example : fits { w := 4, rw := 4 } 0 (avail 4 4 0 0) [(0, .flat, .doc (.cat [.text [97, 97], line, .text [98, 98]]))] = false := by decide +kernel

end PP.C06
