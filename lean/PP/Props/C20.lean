/-
C20 — concurrent printing is safe.
Over the small-step model M10 (one shared-state access per step): for EVERY schedule, every thread that finishes
obtains exactly the printer a sequential print would have obtained, and no step can fail.
-/
import PP.Model.Threads
import PP.Props.C15
namespace PP.C20
open PP Reg Thr C15

/-- global invariant relative to the state `s0` in which the concurrent prints started -/
structure GInv (s0 s : State) : Prop where
  eff_const : ∀ c, eff s c = eff s0 c
  def_mono : ∀ c, s.deferred c = none ∨ s.deferred c = s0.deferred c

/-- per-thread invariant -/
def TInv (s0 s : State) (t : Thread) : Prop :=
  match t.pc with
  | .start => True
  | .prom1 c p => s0.deferred c = some p ∧ ∃ post, ClearPrefix s t.mro (c :: post)
  | .prom2 c p => s0.deferred c = some p ∧ s.reg c = some p ∧ ∃ post, ClearPrefix s t.mro (c :: post)
  | .prom3 c => (∃ p, s0.deferred c = some p ∧ s.reg c = some p) ∧ ∃ post, ClearPrefix s t.mro (c :: post)
  | .chk => ∃ c r, t.mro = c :: r ∧ s.deferred c = none
  | .sup r => ClearPrefix s t.mro r
  | .disp => Good s0 s t.mro
  | .done res => res = firstEff s0 t.mro

/-- what a step may change: deferred entries only disappear; a promoted registration stays -/
structure Mono (s0 s s' : State) : Prop where
  def_none : ∀ x, s.deferred x = none → s'.deferred x = none
  reg_keep : ∀ c p, s0.deferred c = some p → s.reg c = some p → s'.reg c = some p

theorem Mono.refl (s0 s : State) : Mono s0 s s := ⟨fun _ h => h, fun _ _ _ h => h⟩

theorem good_mono {s0 s s' : State} (hm : Mono s0 s s') {l} (h : Good s0 s l) : Good s0 s' l := by
  induction l with
  | nil => trivial
  | cons x r ih =>
    by_cases he : (eff s0 x).isSome
    · rw [Good, if_pos he] at h ⊢; exact hm.def_none x h
    · rw [Good, if_neg he] at h ⊢; exact ih h

theorem tinv_mono {s0 s s' : State} (hm : Mono s0 s s') (t : Thread) (h : TInv s0 s t) : TInv s0 s' t := by
  obtain ⟨mro, pc⟩ := t
  cases pc <;> simp only [TInv] at h ⊢
  case prom1 => exact ⟨h.1, h.2.imp fun _ => .mono hm.def_none⟩
  case prom2 c p => exact ⟨h.1, hm.reg_keep c p h.1 h.2.1, h.2.2.imp fun _ => .mono hm.def_none⟩
  case prom3 c =>
    obtain ⟨⟨p, h1, h2⟩, h3⟩ := h
    exact ⟨⟨p, h1, hm.reg_keep c p h1 h2⟩, h3.imp fun _ => .mono hm.def_none⟩
  case chk => obtain ⟨c, r, e, hc⟩ := h; exact ⟨c, r, e, hm.def_none c hc⟩
  case sup => exact h.mono hm.def_none
  case disp => exact good_mono hm h
  case done => exact h

theorem GInv.pending {s0 s : State} (hg : GInv s0 s) {c : Cls} {p : Pr} (h : s.deferred c = some p) :
    s0.deferred c = some p :=
  (hg.def_mono c).elim (fun hn => by rw [hn] at h; cases h) fun e => e ▸ h

/-! The two writes.  Both leave `eff` alone because the entry being promoted was pending in `s0`, where it was the
effective registration of its class: whoever registers it or pops it only moves it from one table to the other. -/

theorem write_reg {s0 s : State} (hg : GInv s0 s) {c : Cls} {p : Pr} (h0 : s0.deferred c = some p) :
    GInv s0 { s with reg := upd s.reg c (some p) } ∧ Mono s0 s { s with reg := upd s.reg c (some p) } := by
  refine ⟨⟨fun x => ?_, hg.def_mono⟩, fun _ h => h, fun c' p' h0' hr => ?_⟩
  · by_cases hx : x = c
    · subst hx
      rw [eff_of_pending h0]
      rcases hg.def_mono x with hd | hd
      · simp [eff, hd]
      · simp [eff, hd, h0]
    · rw [← hg.eff_const x]; simp [eff, hx]
  · by_cases hx : c' = c
    · subst hx; rw [h0] at h0'; cases h0'; exact upd_same ..
    · simpa [hx] using hr

theorem pop_def {s0 s : State} (hg : GInv s0 s) {c : Cls} {p : Pr} (h0 : s0.deferred c = some p)
    (hr : s.reg c = some p) :
    GInv s0 { s with deferred := upd s.deferred c none } ∧ Mono s0 s { s with deferred := upd s.deferred c none } := by
  refine ⟨⟨fun x => ?_, fun x => ?_⟩, fun x hx => upd_none_of_none hx c, fun _ _ _ h => h⟩
  · by_cases hx : x = c
    · subst hx; rw [eff_of_pending h0]; simp [eff, hr]
    · rw [← hg.eff_const x]; simp [eff, hx]
  · by_cases hx : x = c
    · subst hx; exact .inl (upd_same ..)
    · simpa [hx] using hg.def_mono x

/-- **C20.step_inv** — one step of any thread preserves the global invariant, is monotone, and establishes the stepping
thread's own invariant in the new state -/
theorem step_inv (s0 s : State) (t : Thread) (hg : GInv s0 s) (ht : TInv s0 s t) :
    GInv s0 (tstep s t).1 ∧ Mono s0 s (tstep s t).1 ∧ TInv s0 (tstep s t).1 (tstep s t).2.1 := by
  obtain ⟨mro, pc⟩ := t
  have read : ∀ {t'}, TInv s0 s t' → GInv s0 s ∧ Mono s0 s s ∧ TInv s0 s t' := fun h => ⟨hg, .refl _ _, h⟩
  -- the loop over the MRO reads `deferred[x]`: a pending entry starts a promotion, otherwise `x` joins the clear prefix
  have look : ∀ {x r p}, ClearPrefix s mro (x :: r) → s.deferred x = some p → TInv s0 s ⟨mro, .prom1 x p⟩ :=
    fun h hd => ⟨hg.pending hd, _, h⟩
  cases pc <;> simp only [TInv] at ht
  case start =>
    cases mro with
    | nil => exact read trivial
    | cons c r =>
      simp only [tstep]
      cases hd : s.deferred c with
      | some p => exact read (look ⟨[], rfl, by simp⟩ hd)
      | none => exact read ⟨c, r, rfl, hd⟩
  case prom1 c p =>
    obtain ⟨h0, post, hcp⟩ := ht
    obtain ⟨hg', hm⟩ := write_reg hg h0
    exact ⟨hg', hm, h0, upd_same .., post, hcp⟩
  case prom2 c p =>
    obtain ⟨h0, hr, post, hcp⟩ := ht
    simp only [tstep]
    split
    · exact read ⟨⟨p, h0, hr⟩, post, hcp⟩
    · rename_i hne
      have hdn : s.deferred c = none := (hg.def_mono c).resolve_right fun e => hne (e.trans h0)
      exact read (hcp.good (good_head hdn (by simp [eff_of_pending h0]) post))
  case prom3 c =>
    obtain ⟨⟨p, h0, hr⟩, post, hcp⟩ := ht
    obtain ⟨hg', hm⟩ := pop_def hg h0 hr
    exact ⟨hg', hm, (hcp.mono hm.def_none).good (good_head (upd_same ..) (by simp [eff_of_pending h0]) post)⟩
  case chk =>
    obtain ⟨c, r, rfl, hdc⟩ := ht
    simp only [tstep]
    split
    · rename_i hr
      exact read (good_head hdc (by rwa [← hg.eff_const, eff_of_clear hdc]) r)
    · exact read ⟨[c], rfl, by simpa using hdc⟩
  case sup r =>
    cases r with
    | nil => exact read (ht.good trivial)
    | cons x r =>
      simp only [tstep]
      cases hd : s.deferred x with
      | some p => exact read (look ht hd)
      | none => exact read (ht.step hd)
  case disp => exact read (dispatch_of_good hg.eff_const _ ht)
  case done => exact read ht

theorem ginv_init (s0 : State) : GInv s0 s0 := ⟨fun _ => rfl, fun _ => Or.inr rfl⟩

def AllInv (s0 s : State) (ts : List Thread) : Prop := ∀ t ∈ ts, TInv s0 s t

theorem runSched_inv (s0 s : State) (ts : List Thread) (sched : List Nat) (hg : GInv s0 s) (ha : AllInv s0 s ts) :
    GInv s0 (runSched s ts sched).1 ∧ AllInv s0 (runSched s ts sched).1 (runSched s ts sched).2.1 := by
  fun_induction runSched s ts sched with
  | case1 => exact ⟨hg, ha⟩
  | case2 _ _ _ _ _ ih => exact ih hg ha
  | case3 _ _ _ _ _ _ _ ih => exact ih hg ha
  | case4 s ts i rest t hti _ s' t' ev he s'' ts'' log hr ih =>
    -- the thread that steps establishes its own invariant, the others keep theirs because the step is monotone
    obtain ⟨hg', hm, ht'⟩ := step_inv s0 s t hg (ha t (List.mem_of_getElem? hti))
    rw [he] at hg' hm ht'
    rw [hr] at ih
    refine ih hg' fun u hu => ?_
    rcases List.mem_or_eq_of_mem_set hu with hu | rfl
    · exact tinv_mono hm u (ha u hu)
    · exact ht'

/-- **C20.linearizable** — start any number of threads, each about to print a value of any class, in any registry
state `s0` reached by any history; run them under ANY schedule: every thread that has finished obtained exactly the
printer that a sequential print of the same value in `s0` obtains (and, the model being total, no step can raise). -/
theorem linearizable (s0 : State) (mros : List (List Cls)) (sched : List Nat) :
    ∀ t ∈ (runSched s0 (mros.map fun m => { mro := m }) sched).2.1, ∀ res, t.pc = .done res →
      res = dispatch (isRegistered s0 t.mro ⟨true, true, true⟩).1 t.mro := by
  intro t ht res hres
  have hall : AllInv s0 s0 (mros.map fun m => { mro := m }) := by
    intro u hu
    obtain ⟨m, _, rfl⟩ := List.mem_map.mp hu
    trivial
  have := (runSched_inv s0 s0 _ sched (ginv_init s0) hall).2 t ht
  rw [TInv, hres] at this
  rw [this, dispatch_isRegistered]

end PP.C20
