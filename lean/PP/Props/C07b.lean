/-
C07, the evaluation clause on tokens: what the stdlib printers of `Model/Std.lean` produce lies in the readable fragment, so the
printed text reads back (reader of `Spec/Reader.lean`) as the constructor call the printer built or, for `timezone.utc` and Enum
members, as the name itself.  (timedelta prints arithmetic, read by
`Spec/TdReader.lean`: `C07.timedelta_reads_back`.)
-/
import PP.Props.C08b
import PP.Model.Std
namespace PP.C07
open PP Doc Pr Tok PP.Std

/-- the decimal text of an integer is a numeric literal token -/
theorem isNumTok_intLit (n : Int) : isNumTok (intLit n) = true := by
  cases n with
  | ofNat m =>
    obtain ⟨hne, hall⟩ := intLit_digits m
    obtain ⟨c, r, hl⟩ := List.exists_cons_of_ne_nil hne
    have hc := hall c (by rw [hl]; exact List.mem_cons_self ..)
    rw [hl]; simp [isNumTok, hc.1, hc.2]
  | negSucc m =>
    have h1 : (toString (Int.negSucc m)).toList = '-' :: (Nat.repr (m+1)).toList := by
      show (Int.repr (Int.negSucc m)).toList = _
      simp [Int.repr]
    rw [intLit, h1]
    simp [isNumTok]

theorem intV_inRd (n : Int) : inRd (intV n) = true := by simp [intV, inRd, clsOk, isNumTok_intLit]
theorem intV_denotes (n : Int) : erase (intV n) = .num (intLit n) := rfl
theorem strV_inRd (s : PyStr.PS) : inRd (strV s) = true := rfl

/-- `datetime.timezone.utc` is printed as that name -/
theorem utc_denotes : inRd utcIdent = true ∧ erase utcIdent = .name (str_ "datetime.timezone.utc") := by
  have h : identPh [(tFn, str_ "datetime.timezone.utc")] = some (.name (str_ "datetime.timezone.utc")) := by
    have : (codeTok tFn && okName (str_ "datetime.timezone.utc")) = true := by decide
    simp [identPh, this]
  simp [utcIdent, inRd, erase, h]

/-- an Enum member is printed as `Class` `.MEMBER`, which reads as the dotted name -/
theorem enum_denotes (cls : QualName) (name : Str) (hc : okName cls.2 = true) (hn : isAttrTok (46 :: name) = true) :
    inRd (showEnum cls name) = true ∧ erase (showEnum cls name) = .name (cls.2 ++ 46 :: name) := by
  have hct : codeTok (if cls.1 then tBuiltin else tFn) = true := by cases cls.1 <;> decide
  have hcf : codeTok tFn = true := by decide
  simp [showEnum, inRd, erase, identPh, hct, hcf, hc, hn]

theorem kwName_keys :
    kwName k_microsecond = true ∧ kwName k_second = true ∧ kwName k_minute = true ∧ kwName k_hour = true ∧ kwName k_day = true ∧
      kwName k_month = true ∧ kwName k_year = true ∧ kwName k_tzinfo = true ∧ kwName k_fold = true ∧ kwName k_maxlen = true := by decide

theorem inRdK_ints (l : List (Str × Nat)) (h : ∀ p ∈ l, kwName p.1 = true) :
    inRdK (l.map fun (k, v) => (k, intV (v : Int))) = true :=
  (inRdK_iff _).mpr (List.forall_mem_map.mpr fun p hp => ⟨h p hp, intV_inRd _⟩)

theorem inRdK_append (a b : List (Str × PyVal)) : inRdK (a ++ b) = (inRdK a && inRdK b) :=
  Bool.eq_iff_iff.mpr (by simp only [Bool.and_eq_true, inRdK_iff, List.forall_mem_append])

/-- `tzinfo` and `fold`, which `pretty_time` and `pretty_datetime` append in the same way, keep a keyword list readable -/
theorem inRdK_tzFold (kw : List (Str × PyVal)) (tz : Option PyVal) (c : Bool) (n : Int) (hk : inRdK kw = true)
    (htz : ∀ t, tz = some t → inRd t = true) :
    inRdK (if c then (match (generalizing := false) tz with | some t => kw ++ [(k_tzinfo, t)] | none => kw) ++ [(k_fold, intV n)]
      else (match (generalizing := false) tz with | some t => kw ++ [(k_tzinfo, t)] | none => kw)) = true := by
  cases tz with
  | none => cases c <;> simp [inRdK_append, inRdK, hk, kwName_keys, intV_inRd]
  | some t => cases c <;> simp [inRdK_append, inRdK, hk, kwName_keys, htz t rfl, intV_inRd]

theorem date_denotes (y mo d : Nat) :
    inRd (showDate y mo d) = true ∧
    erase (showDate y mo d) = .call (str_ "datetime.date") [.num (intLit y), .num (intLit mo), .num (intLit d)] := by
  have hn : okName (q "datetime.date").2 = true := by decide
  rw [showDate, C17.call_inRd _ _ _ hn, C17.call_denotes _ _ _ hn]
  simp [inRdL, inRdK, eraseL, eraseK, intV_inRd, intV_denotes, q]

theorem timeFields_kw (h mi s us : Nat) :
    ∀ p ∈ ([(k_microsecond, us), (k_second, s), (k_minute, mi), (k_hour, h)] : List (Str × Nat)).dropWhile (fun (_, v) => v == 0),
      kwName p.1 = true := by
  intro p hp
  have := (List.dropWhile_suffix _).subset hp
  simp only [List.mem_cons, List.not_mem_nil, or_false] at this
  rcases this with rfl | rfl | rfl | rfl <;> simp [kwName_keys]

/-- **C07.time_inRd** — `datetime.time(...)` with any fields, any readable tzinfo, any fold -/
theorem time_inRd (h mi s us : Nat) (tz : Option PyVal) (fold : Nat) (htz : ∀ t, tz = some t → inRd t = true) :
    inRd (showTime h mi s us tz fold) = true := by
  unfold showTime
  rw [C17.call_inRd _ _ _ (by decide), inRdL, Bool.true_and]
  exact inRdK_tzFold _ tz _ _ (inRdK_ints _ fun p hp => timeFields_kw h mi s us p (List.mem_reverse.mp hp)) htz

theorem datetime_forms_inRd (y mo d : Nat) (kw : List (Str × PyVal)) (hk : inRdK kw = true) :
    inRd (if kw.length == 3 then .call (q "datetime.datetime") [intV y, intV mo, intV d] []
          else .call (q "datetime.datetime") [] kw) = true := by
  have hn : okName (q "datetime.datetime").2 = true := by decide
  split <;> simp [C17.call_inRd _ _ _ hn, inRdL, inRdK, intV_inRd, hk]

/-- **C07.datetime_inRd** — `datetime.datetime(...)`: the positional form and the keyword form, any readable tzinfo, any fold -/
theorem datetime_inRd (y mo d h mi s us : Nat) (tz : Option PyVal) (fold : Nat) (htz : ∀ t, tz = some t → inRd t = true) :
    inRd (showDatetime y mo d h mi s us tz fold) = true := by
  unfold showDatetime
  refine datetime_forms_inRd y mo d _ (inRdK_tzFold _ tz _ _ (inRdK_ints _ fun p hp => ?_) htz)
  rcases List.mem_append.mp (List.mem_reverse.mp hp) with hp | hp
  · exact timeFields_kw h mi s us p hp
  · simp only [List.mem_cons, List.not_mem_nil, or_false] at hp
    rcases hp with rfl | rfl | rfl <;> simp [kwName_keys]

/-- non-UTC timezones are printed as `datetime.timezone(offset[, name])` -/
theorem timezone_inRd (isUtc : Bool) (offset : PyVal) (name : Option PyStr.PS) (ho : inRd offset = true) :
    inRd (showTimezone isUtc offset name) = true := by
  unfold showTimezone
  split
  · exact utc_denotes.1
  · rw [C17.call_inRd _ _ _ (by decide)]; cases name <;> simp [inRdL, inRdK, ho, strV_inRd]

theorem deque_inRd (cls : QualName) (xs : List PyVal) (maxlen : Option Nat) (hc : okName cls.2 = true) (hx : inRdL xs = true) :
    inRd (showDeque cls xs maxlen) = true := by
  unfold showDeque
  rw [C17.call_inRd _ _ _ hc]
  cases maxlen <;> simp [inRd, inRdL, inRdK, hx, clsOk, kwName_keys, intV_inRd]

theorem deque_denotes (cls : QualName) (xs : List PyVal) (n : Nat) (hc : okName cls.2 = true) :
    erase (showDeque cls xs (some n)) = .call cls.2 [.list (eraseL xs), .kwarg k_maxlen (.num (intLit n))] := by
  rw [showDeque, C17.call_denotes _ _ _ hc]; simp [eraseL, eraseK, erase, wrapNE, mkSeq, intV_denotes]

theorem chainmap_inRd (cls : QualName) (maps : List PyVal) (firstEmpty : Bool) (hc : okName cls.2 = true) (hm : inRdL maps = true) :
    inRd (showChainMap cls maps firstEmpty) = true := by
  unfold showChainMap; split <;> simp [C17.call_inRd _ _ _ hc, inRdL, inRdK, hm]

theorem oneArg_inRd (cls : QualName) (arg : PyVal) (hc : okName cls.2 = true) (ha : inRd arg = true) :
    inRd (showOneArg cls arg) = true := by
  simp [showOneArg, C17.call_inRd _ _ _ hc, inRdL, inRdK, ha]

theorem defaultdict_inRd (cls : QualName) (factory d : PyVal) (hc : okName cls.2 = true) (hf : inRd factory = true) (hd : inRd d = true) :
    inRd (showDefaultdict cls factory d) = true := by
  simp [showDefaultdict, C17.call_inRd _ _ _ hc, inRdL, inRdK, hf, hd]

/-- a pure path is printed as its class applied to the string `as_posix()` gives (one literal, however it is split over lines) -/
theorem path_denotes (cls : QualName) (posix : PyStr.PS) (hc : okName cls.2 = true) :
    inRd (.path cls posix) = true ∧ erase (.path cls posix) = .call cls.2 [.str false (PyStr.cps posix)] := by
  simp [inRd, erase, hc]

/-- **C07.output_reads_back** — for every value of the readable fragment (which, by the lemmas above, holds what the printers for
date, time, timezone, deque, ChainMap, Counter / OrderedDict / mappingproxy / UUID / exceptions (one-argument calls), defaultdict
and Enum members produce, nested in any way and with readable arguments): at every width / ribbon / indent the tokens of the
printed text read back, up to literal splitting, as `erase v` — the call the printer built. -/
theorem output_reads_back (s : Settings) (v : PyVal) (hw : wfVal v) (hin : inRd v = true)
    (hd : s.depth = none) (hm : s.maxSeqLen = none) (hs : s.sortKeys = false) :
    ∃ ts, TEq (ctoks (sdocsM s v)) ts ∧ parseV (need v) ts = some (erase v, []) :=
  C01.output_reads_back' s v hw hin hd hm hs

/-- instance: an aware time inside a list, at any settings with the limits off -/
example (s : Settings) (hd : s.depth = none) (hm : s.maxSeqLen = none) (hs : s.sortKeys = false) :
    ∃ ts, TEq (ctoks (sdocsM s (.seq 0 none [showTime 1 2 0 0 (some utcIdent) 1]))) ts ∧
      parseV (need (.seq 0 none [showTime 1 2 0 0 (some utcIdent) 1])) ts = some (erase (.seq 0 none [showTime 1 2 0 0 (some utcIdent) 1]), []) :=
  output_reads_back s _ (by simp [wfVal, wfVals, showTime, wfKws, intV, utcIdent]) (by
    have := time_inRd 1 2 0 0 (some utcIdent) 1 (by intro t ht; cases ht; exact utc_denotes.1)
    simp [inRd, inRdL, clsOk, this]) hd hm hs

end PP.C07
