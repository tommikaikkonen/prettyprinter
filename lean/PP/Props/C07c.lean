/-
C07, timedelta on tokens: `pretty_timedelta` prints arithmetic (`days=2 * 365 + 1`) and a leading `-`, which the reader of
`Spec/Reader.lean` does not cover.  `Spec/TdReader.lean` is a reader for exactly that fragment — decimal literals, `*` binding
tighter than `+`, keyword arguments of `datetime.timedelta`, unary minus on the call — and this file proves that the code tokens
of EVERY layout of EVERY timedelta (depth not exhausted) read back through it as the original duration in microseconds.
-/
import PP.Props.C07
import PP.Props.C03
import PP.Spec.TdReader
namespace PP.C07
open PP Doc Pr Tok PP.Std

theorem decVal_intLit (m : Nat) : decVal (intLit (Int.ofNat m)) = m := by
  rw [decVal, intLit_ofNat, List.foldl_map]; exact Nat.ofDigitChars_ten_toDigits

theorem isDigits_intLit (m : Nat) : isDigits (intLit (Int.ofNat m)) = true := by
  simp only [isDigits, Bool.and_eq_true, Bool.not_eq_true', List.isEmpty_eq_false_iff, List.all_eq_true, decide_eq_true_eq]
  exact intLit_digits m

theorem numTok_intLit (n : Int) (h : 0 ≤ n) : numTok (.code (intLit n)) = some n := by
  obtain ⟨m, rfl⟩ := Int.eq_ofNat_of_zero_le h
  rw [numTok, ← Int.ofNat_eq_natCast, isDigits_intLit, decVal_intLit]; rfl

theorem evalExpr_lits (a b c : Int) (ha : 0 ≤ a) (hb : 0 ≤ b) (hc : 0 ≤ c) :
    evalExpr [.code (intLit a)] = some a ∧ evalExpr [.code (intLit a), MUL_T, .code (intLit b)] = some (a * b) ∧
    evalExpr [.code (intLit a), ADD_T, .code (intLit b)] = some (a + b) ∧
    evalExpr [.code (intLit a), MUL_T, .code (intLit b), ADD_T, .code (intLit c)] = some (a * b + c) := by
  simp [evalExpr, numTok_intLit _ ha, numTok_intLit _ hb, numTok_intLit _ hc, show ADD_T ≠ MUL_T by decide]

def noComma (e : List CT) : Prop := ∀ t ∈ e, t ≠ COMMA_T
def noLit (l : List CT) : Prop := ∀ t ∈ l, isLit t = false

/-- a code token other than the comma: what the arguments `pretty_timedelta` prints consist of -/
def plain (t : CT) : Bool := !isLit t && t != COMMA_T

theorem noComma_of_plain {l : List CT} (h : l.all plain = true) : noComma l := fun t ht => by
  have := List.all_eq_true.mp h t ht; simp only [plain, Bool.and_eq_true, bne_iff_ne] at this; exact this.2
theorem noLit_of_plain {l : List CT} (h : l.all plain = true) : noLit l := fun t ht => by
  have := List.all_eq_true.mp h t ht; simp only [plain, Bool.and_eq_true, Bool.not_eq_true'] at this; exact this.1

theorem splitC_noComma (e : List CT) (he : noComma e) (acc rest : List CT) :
    splitC acc (e ++ rest) = splitC (acc ++ e) rest := by
  induction e generalizing acc with
  | nil => simp
  | cons t e ih =>
    have ht : t ≠ COMMA_T := he t (by simp)
    have he' : noComma e := fun x hx => he x (by simp [hx])
    rw [List.cons_append, splitC, if_neg ht, ih he', List.append_assoc]; rfl

theorem splitC_tailToks : ∀ (els : List (List CT)) (acc : List CT), (∀ e ∈ els, noComma e) →
    splitC acc (tailToks els false) = acc :: els
  | [], acc, _ => by simp [tailToks, splitC]
  | e :: r, acc, hn => by
    rw [tailToks_cons, splitC, if_pos rfl, splitC_noComma e (hn e (by simp)), List.nil_append,
      splitC_tailToks r e fun x hx => hn x (by simp [hx])]

theorem splitC_seqToks : ∀ (segs : List (List CT)), segs ≠ [] → (∀ e ∈ segs, noComma e) →
    splitC [] (seqToks segs false) = segs
  | [], h, _ => absurd rfl h
  | t :: els, _, hn => by
    rw [seqToks_cons, splitC_noComma t (hn t (by simp)), List.nil_append, splitC_tailToks els t fun x hx => hn x (by simp [hx])]

/-- an argument as the proof sees it: keyword, expression tokens, value -/
structure Arg where
  k : Str
  e : List CT
  v : Int

def Arg.ok (a : Arg) : Prop := isBlank a.k = false ∧ a.k ≠ [44] ∧ a.e.all plain = true ∧ evalExpr a.e = some a.v

def Arg.toks (a : Arg) : List CT := cd a.k ++ [EQ_T] ++ a.e

theorem Arg.toks_plain (a : Arg) (h : a.ok) : a.toks.all plain = true := by
  have : plain (.code a.k) = true := by simp [plain, isLit, COMMA_T, h.2.1]
  simp [Arg.toks, cd_of_not_blank _ h.1, this, h.2.2.1, show plain EQ_T = true from rfl]

theorem readKw_toks (a : Arg) (h : a.ok) : readKw a.toks = some (a.k, a.v) := by
  simp [Arg.toks, cd_of_not_blank _ h.1, readKw, h.2.2.2]

theorem mapMO_args : ∀ (as : List Arg), (∀ a ∈ as, a.ok) →
    mapMO readKw (as.map Arg.toks) = some (as.map fun a => (a.k, a.v))
  | [], _ => rfl
  | a :: r, h => by
    simp [mapMO, readKw_toks a (h a (by simp)), mapMO_args r (fun x hx => h x (by simp [hx]))]

theorem cd_nmTimedelta : cd nmTimedelta.2 = [.code nmTimedelta.2] := by decide

theorem readCall_args (as : List Arg) (hok : ∀ a ∈ as, a.ok) :
    readCall (callToks nmTimedelta (as.map Arg.toks)) = tdSum (as.map fun a => (a.k, a.v)) := by
  simp only [callToks, cd_nmTimedelta, List.cons_append, List.nil_append,
    readCall, List.getLast?_append, List.getLast?_singleton, Option.some_or, and_self, if_true, List.dropLast_concat]
  cases as with
  | nil => simp [seqToks, tdSum]
  | cons a r =>
    have he : (seqToks ((a :: r).map Arg.toks) false).isEmpty = false := by simp [seqToks_cons, Arg.toks]
    rw [he, splitC_seqToks _ (by simp) fun e he => ?_, mapMO_args _ hok]; rfl
    obtain ⟨x, hx, rfl⟩ := List.mem_map.mp he
    exact noComma_of_plain (x.toks_plain (hok x hx))

theorem intLit_tok (v : Int) (h : 0 ≤ v) : cd (intLit v) = [.code (intLit v)] ∧ plain (.code (intLit v)) = true := by
  obtain ⟨m, rfl⟩ := Int.eq_ofNat_of_zero_le h
  have hd := isDigits_intLit m
  have h44 : intLit (Int.ofNat m) ≠ [44] := ne_of_class isDigits hd rfl
  exact ⟨cd_of_not_blank _ (not_blank_of_class isDigits hd), by simpa [plain, isLit, COMMA_T] using h44⟩

theorem intDoc_arg (ctx : Ctx) (hz : ctx.depthZero = false) (v : Int) (h : 0 ≤ v) :
    toksOf (intDoc ctx v) = [.code (intLit v)] := by
  simp only [toksOf_intDoc, hz, Bool.false_eq_true, if_false, intLit_tok v h]

/-- stated together so that the keywords are evaluated once (every `str_ "…"` decodes a string literal again) -/
theorem tdKeys :
    let ks := [str_ "days", str_ "hours", str_ "minutes", str_ "seconds", str_ "milliseconds", str_ "microseconds"]
    ks.Nodup ∧ ks.map unitOf = [86400000000, 3600000000, 60000000, 1000000, 1000, 1].map some ∧
      ∀ k ∈ ks, isBlank k = false ∧ k ≠ [44] := by decide

theorem toksOf_daysDoc (ctx : Ctx) (hz : ctx.depthZero = false) (hz' : ctx.nested.depthZero = false) (days : Int) (h : 0 ≤ days) :
    toksOf (daysDoc ctx days) =
      if days / 365 != 0 then
        (if days / 365 > 1 then [.code (intLit (days / 365)), MUL_T] else []) ++ [.code (intLit 365)] ++
          (if days % 365 != 0 then [ADD_T, .code (intLit (days % 365))] else [])
      else [.code (intLit days)] := by
  have hy : 0 ≤ days / 365 := Int.ediv_nonneg h (by omega)
  have hr : 0 ≤ days % 365 := Int.emod_nonneg _ (by omega)
  simp only [daysDoc, apply_ite toksOf, apply_ite toksOfL, toksOf, toksOfL, toksOfL_append, intDoc_arg ctx hz _ hy, intDoc_arg ctx hz _ hr,
    intDoc_arg ctx hz 365 (by omega), intDoc_arg _ hz' _ h, toksOf_MUL, toksOf_ADD, MUL_T, ADD_T,
    List.nil_append, List.append_nil, List.cons_append]
  rfl

theorem daysDoc_toks (ctx : Ctx) (hz : ctx.depthZero = false) (hz' : ctx.nested.depthZero = false) (days : Int) (h : 0 ≤ days) :
    (toksOf (daysDoc ctx days)).all plain = true ∧ evalExpr (toksOf (daysDoc ctx days)) = some days := by
  have hy : 0 ≤ days / 365 := Int.ediv_nonneg h (by omega)
  have hr : 0 ≤ days % 365 := Int.emod_nonneg _ (by omega)
  have hd : days / 365 * 365 + days % 365 = days := Int.ediv_mul_add_emod ..
  rw [toksOf_daysDoc ctx hz hz' days h]
  generalize days / 365 = y at hy hd ⊢
  generalize days % 365 = r at hr hd ⊢
  have e365 := evalExpr_lits 365 r 0 (by omega) hr (by omega)
  have ey := evalExpr_lits y 365 r hy (by omega) hr
  refine ⟨?_, ?_⟩
  · simp only [apply_ite (List.all · plain), List.all_append, List.all_cons, List.all_nil, (intLit_tok _ hy).2, (intLit_tok _ hr).2,
      (intLit_tok 365 (by omega)).2, (intLit_tok _ h).2, show plain MUL_T = true from rfl, show plain ADD_T = true from rfl,
      Bool.and_self, ite_self]
  · by_cases h0 : y = 0
    · simp only [h0, bne_self_eq_false, Bool.false_eq_true, if_false]
      exact numTok_intLit days h
    · rw [if_pos (bne_iff_ne.mpr h0)]
      by_cases h1 : y > 1 <;> by_cases h2 : r = 0 <;>
        simp only [bne_iff_ne, ne_eq, h1, h2, not_false_eq_true, not_true_eq_false, if_true, if_false]
      · exact ey.2.1.trans (congrArg some (by omega))          -- `y * 365`
      · exact ey.2.2.2.trans (congrArg some hd)                 -- `y * 365 + r`
      · exact e365.1.trans (congrArg some (by omega))           -- `365`: here `y = 1`
      · exact e365.2.2.1.trans (congrArg some (by omega))       -- `365 + r`

theorem daysDoc_arg (ctx : Ctx) (hz : ctx.depthZero = false) (hz' : ctx.nested.depthZero = false) (days : Int) (h : 0 ≤ days) :
    noComma (toksOf (daysDoc ctx days)) ∧ evalExpr (toksOf (daysDoc ctx days)) = some days ∧ noLit (toksOf (daysDoc ctx days)) :=
  have ⟨hp, he⟩ := daysDoc_toks ctx hz hz' days h
  ⟨noComma_of_plain hp, he, noLit_of_plain hp⟩

theorem tdSum_cons_iff {k : Str} {v : Int} {r : List (Str × Int)} {t : Int} :
    tdSum ((k, v) :: r) = some t ↔
      (r.any fun p => p.1 == k) = false ∧ ∃ un, unitOf k = some un ∧ ∃ t', tdSum r = some t' ∧ un * v + t' = t := by
  rw [tdSum]
  cases r.any fun p => p.1 == k <;> simp [Option.bind_eq_some_iff]

theorem tdSum_filter : ∀ (l : List (Str × Int)) (t : Int), tdSum l = some t → tdSum (l.filter nz) = some t
  | [], _, h => h
  | (k, v) :: r, t, h => by
    obtain ⟨hk, un, hu, t', hr, rfl⟩ := tdSum_cons_iff.mp h
    have ih := tdSum_filter r t' hr
    rw [List.filter_cons]
    by_cases hv : v = 0
    · simpa [nz, hv] using ih
    · have hk' : ((r.filter nz).any fun p => p.1 == k) = false := by
        rw [List.any_eq_false] at hk ⊢; exact fun p hp => hk p (List.mem_filter.mp hp).1
      simpa [nz, hv] using tdSum_cons_iff.mpr ⟨hk', un, hu, t', ih, rfl⟩

theorem tdSum_zip : ∀ (ks : List Str) (us vs : List Int), ks.Nodup → ks.map unitOf = us.map some →
    tdSum (ks.zip vs) = some (List.zipWith (· * ·) vs us).sum
  | [], [], _, _, _ => by simp [tdSum]
  | _ :: _, _ :: _, [], _, _ => by simp [tdSum]
  | k :: ks, un :: us, v :: vs, hnd, hu => by
    obtain ⟨hk, hnd⟩ := List.nodup_cons.mp hnd
    obtain ⟨hu, hus⟩ := List.cons.inj hu
    have hk' : ((ks.zip vs).any fun p => p.1 == k) = false :=
      List.any_eq_false.mpr fun p hp e => hk (beq_iff_eq.mp e ▸ (List.of_mem_zip hp).1)
    simpa using tdSum_cons_iff.mpr ⟨hk', un, hu, _, tdSum_zip ks us vs hnd hus, by rw [Int.mul_comm]⟩

theorem tdSum_all (days hours minutes seconds ms us : Int) :
    tdSum ((str_ "days", days) :: restAttrs hours minutes seconds ms us) = some (timedeltaValue days hours minutes seconds ms us) :=
  (tdSum_zip _ _ [days, hours, minutes, seconds, ms, us] tdKeys.1 tdKeys.2.1).trans (by simp [timedeltaValue, Int.add_assoc])

/-- the arguments the printer shows, as the proof sees them: `days`, then the other attributes, each unless it is zero -/
def tdArgs (ctx : Ctx) (days : Int) (rest : List (Str × Int)) : List Arg :=
  (if days != 0 then [⟨str_ "days", toksOf (daysDoc ctx days), days⟩] else []) ++
    (rest.filter nz).map fun (k, v) => ⟨k, toksOf (intDoc ctx.nested v), v⟩

theorem tdArgs_values (ctx : Ctx) (days : Int) (rest : List (Str × Int)) :
    (tdArgs ctx days rest).map (fun a => (a.k, a.v)) = ((str_ "days", days) :: rest).filter nz := by
  unfold tdArgs
  rw [List.filter_cons]
  by_cases h : days = 0 <;> simp [h, nz, List.map_map, Function.comp_def]

/-- the parts are not negative (`timedelta_ranges`), so their texts are decimal literals -/
theorem tdArgs_ok (ctx : Ctx) (hz : ctx.depthZero = false) (hz' : ctx.nested.depthZero = false) {d s u : Int} {neg : Bool}
    {days hours minutes seconds ms us : Int} (hp : timedeltaParts d s u = (neg, days, hours, minutes, seconds, ms, us)) :
    ∀ a ∈ tdArgs ctx days (restAttrs hours minutes seconds ms us), a.ok := by
  obtain ⟨h0, h1, -, h2, -, h3, -, h4, -, h5, -⟩ := timedelta_ranges d s u
  simp only [hp] at h0 h1 h2 h3 h4 h5
  have hvs : ∀ v ∈ [hours, minutes, seconds, ms, us], 0 ≤ v := by simp [h1, h2, h3, h4, h5]
  intro a ha
  rcases List.mem_append.mp ha with ha | ha
  · split at ha
    · obtain rfl := List.mem_singleton.mp ha
      have ⟨hb, hc⟩ := tdKeys.2.2 _ (.head _)
      exact ⟨hb, hc, daysDoc_toks ctx hz hz' days h0⟩
    · cases ha
  · obtain ⟨⟨k, v⟩, hkv, rfl⟩ := List.mem_map.mp ha
    -- `restAttrs` pairs the other five keywords with these five values
    have ⟨⟨hb, hc⟩, hv⟩ : (isBlank k = false ∧ k ≠ [44]) ∧ 0 ≤ v :=
      have ⟨hk, hv⟩ := List.of_mem_zip (l₂ := [hours, minutes, seconds, ms, us]) (List.mem_filter.mp hkv).1
      ⟨tdKeys.2.2 k (.tail _ hk), hvs v hv⟩
    show Arg.ok ⟨k, toksOf (intDoc ctx.nested v), v⟩
    rw [intDoc_arg _ hz' v hv]
    exact ⟨hb, hc, by simp [(intLit_tok v hv).2], numTok_intLit v hv⟩

theorem toksOf_timedeltaDoc_eq (ctx : Ctx) (hz : ctx.depthZero = false) {d s u : Int} {neg : Bool} {days hours minutes seconds ms us : Int}
    (hp : timedeltaParts d s u = (neg, days, hours, minutes, seconds, ms, us)) :
    toksOf (timedeltaDoc ctx d s u) =
      (if neg then [NEG_T] else []) ++ callToks nmTimedelta ((tdArgs ctx days (restAttrs hours minutes seconds ms us)).map Arg.toks) := by
  have hk := tdKw_eq ctx d s u
  simp only [hp] at hk
  have hdoc : toksOf (buildFncall ctx.indent (generalIdentifier nmTimedelta) [] (tdKw ctx d s u) false none) =
      callToks nmTimedelta ((tdArgs ctx days (restAttrs hours minutes seconds ms us)).map Arg.toks) := by
    rw [toksOf_buildFncall, toksOf_gi, hk, callToks, tdArgs]
    simp [apply_ite (List.map _), Arg.toks, Function.comp_def]
  rw [timedeltaDoc_eq, hz]
  cases neg <;> simp [hp, toksOf, toksOfL, hdoc, NEG_T]

/-- **C07.timedelta_tokens** — for EVERY timedelta and every context whose depth is not exhausted at the call or at its arguments,
the canonical code tokens of `pretty_timedelta`'s document — `[-] datetime.timedelta ( days = y * 365 + r , hours = h , … )` — read
with Python's arithmetic (`*` before `+`, keyword units, unary minus on the call) give back exactly the original duration. -/
theorem timedelta_tokens (ctx : Ctx) (hz : ctx.depthZero = false) (hz' : ctx.nested.depthZero = false) (d s u : Int) :
    readTimedelta (toksOf (timedeltaDoc ctx d s u)) = some (d * 86400000000 + s * 1000000 + u) := by
  rcases hp : timedeltaParts d s u with ⟨neg, days, hours, minutes, seconds, ms, us⟩
  have hv := timedelta d s u
  simp only [hp, Int.ediv_mul_add_emod] at hv
  have hcall := readCall_args _ (tdArgs_ok ctx hz hz' hp)
  rw [tdArgs_values, tdSum_filter _ _ (tdSum_all ..)] at hcall
  rw [toksOf_timedeltaDoc_eq ctx hz hp]
  simp only [callToks, cd_nmTimedelta, List.cons_append, List.nil_append] at hcall ⊢
  cases neg <;> simp [readTimedelta, hcall, ← hv, show CT.code nmTimedelta.2 ≠ NEG_T by decide]

theorem noLit_append {x y : List CT} : noLit (x ++ y) ↔ noLit x ∧ noLit y := List.forall_mem_append
theorem noLit_code (s : Str) : noLit [.code s] := by simp [noLit, isLit]

theorem not_noLit {l : List CT} {t : CT} (ht : t ∈ l) (hl : isLit t = true) : ¬ noLit l := fun h => by
  rw [h t ht] at hl; cases hl

/-- literal splitting and parentheses around split literals never relate two different literal-free token lists -/
theorem TEq.noLit_eq {a b : List CT} (h : TEq a b) : (noLit a ↔ noLit b) ∧ (noLit a → a = b) := by
  -- the three rules that change anything have a literal on both sides
  have both {a b : List CT} (na : ¬ noLit a) (nb : ¬ noLit b) : (noLit a ↔ noLit b) ∧ (noLit a → a = b) :=
    ⟨iff_of_false na nb, fun h => absurd h na⟩
  induction h with
  | refl a => exact ⟨Iff.rfl, fun _ => rfl⟩
  | symm _ ih => exact ⟨ih.1.symm, fun hb => (ih.2 (ih.1.mpr hb)).symm⟩
  | trans _ _ ih1 ih2 => exact ⟨ih1.1.trans ih2.1, fun ha => (ih1.2 ha).trans (ih2.2 (ih1.1.mp ha))⟩
  | app _ _ ih1 ih2 =>
    simp only [noLit_append, ih1.1, ih2.1, true_and]
    exact fun h => by rw [ih1.2 (ih1.1.mpr h.1), ih2.2 (ih2.1.mpr h.2)]
  | split x y => exact both (not_noLit (.head _) rfl) (not_noLit (.head _) rfl)
  | splitB x y => exact both (not_noLit (.tail _ (.head _)) rfl) (not_noLit (.tail _ (.head _)) rfl)
  | paren ls h2 _ =>
    obtain ⟨t, ht⟩ := List.exists_mem_of_length_pos (Nat.lt_of_lt_of_le Nat.zero_lt_two h2)
    obtain ⟨ht, hl⟩ := List.mem_filter.mp ht
    exact both (not_noLit (by simp [ht]) hl) (not_noLit ht hl)

theorem seqToks_noLit : ∀ (segs : List (List CT)), (∀ e ∈ segs, noLit e) → noLit (seqToks segs false)
  | [], _ => by simp [seqToks, noLit]
  | [t], h => by simpa [seqToks] using h t (by simp)
  | t :: t2 :: r, h => by
    rw [seqToks, noLit_append, noLit_append]
    exact ⟨⟨h t (by simp), noLit_code _⟩, seqToks_noLit (t2 :: r) fun e he => h e (by simp [he])⟩

theorem noLit_timedelta (ctx : Ctx) (hz : ctx.depthZero = false) (hz' : ctx.nested.depthZero = false) (d s u : Int) :
    noLit (toksOf (timedeltaDoc ctx d s u)) := by
  rcases hp : timedeltaParts d s u with ⟨neg, days, hours, minutes, seconds, ms, us⟩
  have hs := seqToks_noLit _ fun e he => by
    obtain ⟨x, hx, rfl⟩ := List.mem_map.mp he
    exact noLit_of_plain (Arg.toks_plain x (tdArgs_ok ctx hz hz' hp x hx))
  rw [toksOf_timedeltaDoc_eq ctx hz hp, callToks, cd_nmTimedelta]
  simp only [noLit_append, hs, and_true]
  exact ⟨by cases neg <;> simp [noLit, isLit, NEG_T], ⟨noLit_code _, noLit_code _⟩, noLit_code _⟩

/-- **C07.timedelta_reads_back** — for EVERY timedelta, all settings with `depth` unlimited or at least 2, and EVERY layout the
document denotes (in particular the one `pformat` picks, at every width / ribbon / indent): the code tokens of the output, read with
Python's arithmetic, are the original duration in microseconds — sign, `years * 365 + days`, hours … microseconds included. -/
theorem timedelta_reads_back (st : Settings) (hz : st.ctx.depthZero = false) (hz' : st.ctx.nested.depthZero = false) (d s u : Int)
    {i m c o c'} (h : Lay st.cfg.Ev (topDoc st.ctx (.timedelta d s u)) i m c o c') :
    readTimedelta (ctoks o) = some (d * 86400000000 + s * 1000000 + u) := by
  -- the canonical tokens are those of the document in any context with the same depth left
  have ht : TEq (ctoks o) (toksOf (timedeltaDoc st.ctx d s u)) := by
    rw [toksOf_timedeltaDoc st.ctx { st.ctx.norm with indent := 0 } (norm_depthLeft _).symm]
    exact C03.any_layout_tokens st (.timedelta d s u) trivial h
  rw [← (TEq.noLit_eq ht.symm).2 (noLit_timedelta _ hz hz' d s u)]
  exact timedelta_tokens _ hz hz' d s u

/-- what `pformat` itself emits -/
theorem timedelta_pformat_reads_back (st : Settings) (hz : st.ctx.depthZero = false) (hz' : st.ctx.nested.depthZero = false)
    (d s u : Int) : readTimedelta (ctoks (sdocsM st (.timedelta d s u))) = some (d * 86400000000 + s * 1000000 + u) := by
  obtain ⟨c', hlay⟩ := C04.sound_pformat st (.timedelta d s u)
  exact timedelta_reads_back st hz hz' d s u hlay

/-- faithful: two timedeltas whose documents have the same code tokens are the same duration -/
theorem timedelta_tokens_injective (ctx : Ctx) (hz : ctx.depthZero = false) (hz' : ctx.nested.depthZero = false)
    (d s u d' s' u' : Int) (h : toksOf (timedeltaDoc ctx d s u) = toksOf (timedeltaDoc ctx d' s' u')) :
    d * 86400000000 + s * 1000000 + u = d' * 86400000000 + s' * 1000000 + u' := by
  have h1 := timedelta_tokens ctx hz hz' d s u
  have h2 := timedelta_tokens ctx hz hz' d' s' u'
  rw [h, h2] at h1
  exact (Option.some.inj h1).symm

/-! non-vacuity: the default settings and `depth = 2` meet the hypotheses (`depth = 1` does not: the arguments are then
printed as `int(...)`, which is C11's business) -/
example : ({} : Settings).ctx.depthZero = false ∧ ({} : Settings).ctx.nested.depthZero = false := by decide
example : ({ depth := some 2 } : Settings).ctx.depthZero = false ∧ ({ depth := some 2 } : Settings).ctx.nested.depthZero = false := by decide
example : ({ depth := some 1 } : Settings).ctx.nested.depthZero = true := by decide
/-- the reader is not a constant: it computes `2 * 3 + 4` as 10 and rejects a repeated keyword and an unknown one -/
example : readTimedelta [.code nmTimedelta.2, LP, .code (str_ "days"), EQ_T, .code [50], MUL_T, .code [51], ADD_T, .code [52], COMMA_T,
    .code (str_ "hours"), EQ_T, .code [53], RP] = some (10 * 86400000000 + 5 * 3600000000) := by decide
example : readTimedelta [.code nmTimedelta.2, LP, .code (str_ "days"), EQ_T, .code [50], COMMA_T, .code (str_ "days"), EQ_T, .code [53], RP] = none := by
  decide
example : readTimedelta [.code nmTimedelta.2, LP, .code (str_ "weeks"), EQ_T, .code [50], RP] = none := by decide
end PP.C07
