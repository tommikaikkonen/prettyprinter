/-
C17, second sentence: the dataclasses and attrs extras print exactly the fields that have repr enabled and whose value
differs from the declared default (or that have no default), in declaration order, so that evaluation reconstructs an
equal instance.  `ne` is the user's `!=`: every statement holds for any such function.
-/
import PP.Model.Fields
import PP.Props.TokensMore
namespace PP.C17
open PP Pr Fields Tok

/-- **C17.fields_shown_iff** — a keyword argument is printed exactly for the fields with repr enabled that have no
default or whose default `!=` the current value; it carries the field's name and current value. -/
theorem fields_shown_iff (ne : PyVal → PyVal → Bool) (fs : List Field) (n : Str) (v : PyVal) :
    (n, v) ∈ fieldKwargs ne fs ↔
      ∃ f ∈ fs, f.name = n ∧ f.val = v ∧ f.repr = true ∧ (f.dflt.get? = none ∨ ∃ d, f.dflt.get? = some d ∧ ne d f.val = true) := by
  simp only [fieldKwargs, List.mem_map, List.mem_filter, shows, Bool.and_eq_true, Prod.mk.injEq]
  constructor
  · rintro ⟨f, ⟨hf, hr, hs⟩, hn, hv⟩
    refine ⟨f, hf, hn, hv, hr, ?_⟩
    cases hd : f.dflt.get? with
    | none => exact Or.inl rfl
    | some d => rw [hd] at hs; exact Or.inr ⟨d, rfl, hs⟩
  · rintro ⟨f, hf, hn, hv, hr, hs⟩
    refine ⟨f, ⟨hf, hr, ?_⟩, hn, hv⟩
    rcases hs with h | ⟨d, h, hne⟩
    · rw [h]
    · rw [h]; exact hne

/-- **C17.fields_in_declaration_order** — the printed keyword arguments are a subsequence of the declared fields. -/
theorem fields_in_declaration_order (ne : PyVal → PyVal → Bool) (fs : List Field) :
    List.Sublist (fieldKwargs ne fs) (fs.map fun f => (f.name, f.val)) := by
  unfold fieldKwargs
  exact (List.filter_sublist).map _

theorem lookup_map_none {α β κ} [BEq κ] [LawfulBEq κ] (key : α → κ) (val : α → β) {k : κ} :
    ∀ {l : List α}, k ∉ l.map key → (l.map fun x => (key x, val x)).lookup k = none
  | [], _ => rfl
  | g :: r, h => by
    rw [List.map_cons, List.mem_cons, not_or] at h
    rw [List.map_cons, List.lookup_cons, beq_false_of_ne h.1]
    exact lookup_map_none key val h.2

theorem lookup_map_filter {α β κ} [BEq κ] [LawfulBEq κ] (key : α → κ) (val : α → β) (p : α → Bool) :
    ∀ (l : List α) (a : α), (l.map key).Nodup → a ∈ l →
      ((l.filter p).map fun x => (key x, val x)).lookup (key a) = if p a then some (val a) else none
  | g :: r, a, hnd, ha => by
    obtain ⟨hg, hr⟩ := List.nodup_cons.mp hnd
    have hsub : ∀ {k}, k ∉ r.map key → k ∉ (r.filter p).map key :=
      fun h hk => h ((List.filter_sublist.map key).subset hk)
    rw [List.filter_cons]
    rcases List.mem_cons.mp ha with rfl | har
    · split
      · rw [List.map_cons, List.lookup_cons_self]
      · exact lookup_map_none key val (hsub hg)
    · have ih := lookup_map_filter key val p r a hr har
      split
      · rwa [List.map_cons, List.lookup_cons,
          beq_false_of_ne fun e : key a = key g => hg (e ▸ List.mem_map_of_mem har)]
      · exact ih

theorem lookup_fieldKwargs (ne : PyVal → PyVal → Bool) (fs : List Field) (f : Field)
    (hnd : (fs.map (·.name)).Nodup) (hf : f ∈ fs) :
    (fieldKwargs ne fs).lookup f.name = if shows ne f then some f.val else none :=
  lookup_map_filter (·.name) (·.val) (shows ne) fs f hnd hf

/-- **C17.fields_rebuild** — calling the class with exactly the printed keyword arguments stores, in every field with repr
enabled, either the very value the instance holds or a declared default that `!=` does not tell apart from it (field names
are distinct, as dataclasses / attrs guarantee). -/
theorem fields_rebuild (ne : PyVal → PyVal → Bool) (fs : List Field) (hnd : (fs.map (·.name)).Nodup)
    (f : Field) (hf : f ∈ fs) (hr : f.repr = true) :
    built (fieldKwargs ne fs) f = some f.val ∨
      ∃ d, built (fieldKwargs ne fs) f = some d ∧ f.dflt.get? = some d ∧ ne d f.val = false := by
  unfold built
  rw [lookup_fieldKwargs ne fs f hnd hf]
  by_cases hs : shows ne f = true
  · left; simp [hs]
  · right
    simp only [hs, Bool.false_eq_true, if_false]
    simp only [shows, hr, Bool.true_and] at hs
    cases hd : f.dflt.get? with
    | none => rw [hd] at hs; exact absurd rfl hs
    | some d => rw [hd] at hs; exact ⟨d, rfl, rfl, by simpa using hs⟩

/-- a field hidden from the repr is rebuilt from its default -/
theorem hidden_field_rebuilt_from_default (ne : PyVal → PyVal → Bool) (fs : List Field) (hnd : (fs.map (·.name)).Nodup)
    (f : Field) (hf : f ∈ fs) (hr : f.repr = false) : built (fieldKwargs ne fs) f = f.dflt.get? := by
  unfold built
  rw [lookup_fieldKwargs ne fs f hnd hf]
  simp [shows, hr]

/-- **C17.instance_tokens** — on the page (every layout, via `C03.output_tokens`): the class name and, between one pair of
parentheses, `name = value` for exactly the selected fields in declaration order. -/
theorem instance_tokens (ne : PyVal → PyVal → Bool) (ctx : Ctx) (cls : QualName) (fs : List Field) (tr : Option PyStr.PS)
    (hz : ctx.depthLeft.any (· == 0) = false) :
    canonW ctx (instanceVal ne cls fs) tr =
      if hugCall [] (fieldKwargs ne fs) then callToks cls (canonL ctx [])
      else callToks cls (canonL ctx.nested [] ++ canonKw ctx.nested (fieldKwargs ne fs)) := by
  unfold instanceVal
  exact call_tokens ctx cls [] (fieldKwargs ne fs) tr hz

end PP.C17
