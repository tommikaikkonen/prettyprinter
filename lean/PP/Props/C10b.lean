/-
C10 / C11 at the level of the reader: with max_seq_len = N ≥ 1, any depth limit and any sort flag, what is printed reads
back as the shown value (`Spec/Shown.lean`).
-/
import PP.Proofs.ShownRd
import PP.Props.C01b
import PP.Props.Limits
namespace PP
open Doc Pr Tok

/-- `inRd` admits no timedelta: how the reading theorems meet the side condition `noTd` of `shown_ok` -/
theorem inRd_noTd : (v : PyVal) → inRd v = true → noTd v = true := by
  intro v
  induction v using PyVal.induct with
  | commented v t ih => exact ih
  | trailing v t ih => exact fun h => ih (Bool.and_eq_true_iff.mp h).1
  | seq k c xs ih | frozenset c xs ih =>
    simp only [inRd, Bool.and_eq_true, noTd, inRdL_iff, noTdL_iff]; exact fun h x hx => ih x hx (h.2 x hx)
  | dict c kvs ih =>
    simp only [inRd, Bool.and_eq_true, noTd, inRdP_iff, noTdP_iff]
    exact fun h p hp => ⟨(ih p hp).1 (h.2 p hp).1, (ih p hp).2 (h.2 p hp).2⟩
  | call f a k iha ihk =>
    simp only [inRd, Bool.and_eq_true, noTd, inRdL_iff, noTdL_iff, inRdK_iff, noTdK_iff]
    exact fun h => ⟨fun x hx => iha x hx (h.1.2 x hx), fun p hp => ihk p hp (h.2 p hp).2⟩
  | timedelta => exact fun h => nomatch h
  | _ => exact fun _ => rfl

theorem inRdL_noTd : (xs : List PyVal) → inRdL xs = true → noTdL xs = true :=
  fun xs h => (noTdL_iff xs).mpr fun x hx => inRd_noTd x ((inRdL_iff xs).mp h x hx)
theorem inRdK_noTd : (xs : List (Str × PyVal)) → inRdK xs = true → noTdK xs = true :=
  fun xs h => (noTdK_iff xs).mpr fun p hp => inRd_noTd p.2 ((inRdK_iff xs).mp h p hp).2
theorem inRdP_noTd : (xs : List (PyVal × PyVal)) → inRdP xs = true → noTdP xs = true :=
  fun xs h => (noTdP_iff xs).mpr fun p hp =>
    ⟨inRd_noTd p.1 ((inRdP_iff xs).mp h p hp).1, inRd_noTd p.2 ((inRdP_iff xs).mp h p hp).2⟩

namespace Limits

/-- **Limits.output_reads_back** — for every value of the readable fragment (built-ins, subclass instances, call-style objects,
comments anywhere), `depth` = d or None, `max_seq_len` = N ≥ 1 or None, `sort_dict_keys` on or off, at any width / ribbon /
indent: what `pformat` prints has — up to literal splitting — a token sequence that the reader of `Spec/Reader.lean` reads as
`erase (shown ctx v)`: the value with every list / tuple / set / frozenset / dict at every level reduced to its first N
elements, dict entries in sorted order when sorting is on, and every node at the cut replaced by its placeholder — `name(...)`
(the call of the type's name on Ellipsis), `[...]`, `{...}` (a list / set holding Ellipsis) or `(...)`, which Python reads as
a parenthesised Ellipsis, not as a tuple. -/
theorem output_reads_back (s : Settings) (v : PyVal) (hw : wfVal v) (hin : inRd v = true) (hm : s.maxSeqLen ≠ some 0) :
    ∃ ts, TEq (ctoks (sdocsM s v)) ts ∧
      parseV (need (shown s.ctx.norm v)) ts = some (erase (shown s.ctx.norm v), []) := by
  refine ⟨canonW s.ctx.norm.free (shown s.ctx.norm v) none, ?_, ?_⟩
  · have h1 := C03.output_tokens s v hw
    have e := shown_ok v s.ctx.norm none hm (Or.inr (inRd_noTd v hin))
    rw [e] at h1
    exact h1
  · exact C01.canon_reads_back' (shown s.ctx.norm v) (inRd_shown v s.ctx.norm hm hin) s.ctx.norm.free ⟨rfl, rfl, rfl⟩ _ (Nat.le_refl _)

end Limits

namespace C10

/-- **C10.output_reads_back** — C10's clause that the truncated output denotes what it shows is `Limits.output_reads_back`, which
covers `max_seq_len` and `depth` together -/
theorem output_reads_back (s : Settings) (v : PyVal) (hw : wfVal v) (hin : inRd v = true)
    (hm : s.maxSeqLen ≠ some 0) :
    ∃ ts, TEq (ctoks (sdocsM s v)) ts ∧
      parseV (need (shown s.ctx.norm v)) ts = some (erase (shown s.ctx.norm v), []) :=
  Limits.output_reads_back s v hw hin hm

/-- a list longer than the limit denotes exactly its first N elements (each shown under the same limits) -/
theorem shown_list_truncated (ctx : Ctx) (hz : ctx.depthZero = false) (xs : List PyVal) (n : Nat) (hm : ctx.maxSeqLen = some n)
    (hn : n ≠ 0) (hlen : xs.length > n) :
    erase (shown ctx (.seq 0 none xs)) = .list (eraseL ((shownL ctx.nested xs).take n)) := by
  rw [shown_seq_eq hz, cutSeq_cut hm hn hlen]
  rfl

/-- a list within the limit denotes all its elements -/
theorem shown_list_full (ctx : Ctx) (hz : ctx.depthZero = false) (x : PyVal) (xs : List PyVal)
    (hlen : ∀ n, ctx.maxSeqLen = some n → (x :: xs).length ≤ n) :
    erase (shown ctx (.seq 0 none (x :: xs))) = .list (eraseL (shownL ctx.nested (x :: xs))) := by
  rw [shown_seq_eq hz, cutSeq_fits hlen]
  rfl

end C10

namespace C11

/-- **C11.output_reads_back** — the same statement under C11's name -/
theorem output_reads_back (s : Settings) (v : PyVal) (hw : wfVal v) (hin : inRd v = true) (hm : s.maxSeqLen ≠ some 0) :
    ∃ ts, TEq (ctoks (sdocsM s v)) ts ∧
      parseV (need (shown s.ctx.norm v)) ts = some (erase (shown s.ctx.norm v), []) :=
  Limits.output_reads_back s v hw hin hm

/-- at the cut a non-empty list is the placeholder `[...]`, which denotes a list holding Ellipsis … -/
theorem cut_list_denotes (ctx : Ctx) (hz : ctx.depthZero = true) (x : PyVal) (xs : List PyVal) :
    erase (shown ctx (.seq 0 none (x :: xs))) = .list [.kw sEll] := by
  simp only [shown, hz, if_true]; rfl

/-- … a non-empty tuple is `(...)`, which Python reads as a parenthesised Ellipsis … -/
theorem cut_tuple_denotes (ctx : Ctx) (hz : ctx.depthZero = true) (x : PyVal) (xs : List PyVal) :
    erase (shown ctx (.seq 1 none (x :: xs))) = .kw sEll := by
  simp only [shown, hz, if_true]; rfl

/-- … an int is `int(...)`, the call of the type's name on Ellipsis -/
theorem cut_int_denotes (ctx : Ctx) (hz : ctx.depthZero = true) (val : Int) (lit : Str) :
    erase (shown ctx (.int none val lit)) = .call nmInt [.kw sEll] := by
  simp only [shown, hz, if_true]; rfl

end C11
end PP

namespace PP.C01
open PP Doc Pr Tok

/-- **C01.output_reads_back_sorted** — with `sort_dict_keys` on or off (depth = None, max_seq_len = None), at any width /
ribbon / indent, what `pformat` prints for a value of the built-in literal types has — up to literal splitting — a token
sequence that reads back to `erase (shown ctx v)`: the value with every dict's entries in the order `sorted` gives
(`shown` sorts with the same stable `<`-insertion as the printer; without sorting `shown` changes nothing that is read). -/
theorem output_reads_back_sorted (s : Settings) (v : PyVal) (hw : wfVal v) (hin : inC01 v = true)
    (hd : s.depth = none) (hm : s.maxSeqLen = none) :
    ∃ ts, TEq (ctoks (sdocsM s v)) ts ∧
      parseV (need (shown s.ctx.norm v)) ts = some (erase (shown s.ctx.norm v), []) :=
  -- also true with a depth limit: `hd` is not needed
  have _ := hd
  Limits.output_reads_back s v hw (inC01_inRd v hin).1 (hm ▸ nofun)

end PP.C01
