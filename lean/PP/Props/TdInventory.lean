/-
C07, tie of the timedelta model to the source: the translator re-reads `pretty_timedelta` on every run — the keyword names of its
`attrs` list (in order), every `divmod(x, N)` it performs, and the integer constants it mentions — and the tables are compared here
with what the model (`timedeltaParts`, `timedeltaDoc`) and the reader (`unitOf`) are built on.
-/
import PP.Generated
import PP.Props.C07c
namespace PP.C07
open PP Pr

/-- the keywords the source shows, in its order, are the six the model shows -/
theorem td_attrs_from_source :
    Generated.timedeltaAttrs = ["days", "hours", "minutes", "seconds", "milliseconds", "microseconds"] := rfl

/-- every keyword the source can print is one `datetime.timedelta` (and the reader's `unitOf`) accepts -/
theorem td_attrs_known : ∀ k ∈ Generated.timedeltaAttrs, (unitOf (str_ k)).isSome = true := by
  have h := tdKeys.2.1
  simp only [List.map_cons, List.map_nil, List.cons.injEq, and_true] at h
  simp [td_attrs_from_source, h]

/-- the divisions of the source are the ones `timedeltaParts` / `timedeltaDoc` perform: seconds → minutes → hours by 60, microseconds →
milliseconds by 1000, days → years by 365 -/
theorem td_divmods_from_source :
    Generated.timedeltaDivmods = [("seconds", 60), ("minutes", 60), ("microseconds", 1000), ("days", 365)] := rfl

/-- the integer constants of the source (sorted): the comparison with 1, the divisors, and the printed `365` -/
theorem td_consts_from_source : Generated.timedeltaIntConsts = [1, 60, 60, 365, 365, 1000] := rfl

end PP.C07
