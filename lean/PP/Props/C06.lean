/-
C06 — whatever fits on one line is put on one line.
-/
import PP.Proofs.FitsE
namespace PP.C06
open PP Doc

/-- **C06.fits_iff_spec** (fast predicate) — on classic stacks the predicate holds exactly when the budget is
non-negative, no forced-break document starts on the current line, and the flat text of the group on top of the
stack plus everything that follows it up to the first line break is at most the available width. -/
theorem fits_iff_spec (cfg : Cfg) (mw left : Int) (stk : List Triple) (hc : AllClassic stk) :
    fitsFast cfg mw left stk = true ↔ 0 ≤ left ∧ ∃ n, scanE (strip stk) = some n ∧ (n : Int) ≤ left := by
  rw [fitsFast_eq_fitsE cfg mw left stk hc]; exact fitsE_iff_scan left (strip stk)

/-- **C06.broken_only_if** — in every machine state over classic documents with a group on top: if the machine
lays the group out broken, then one of the reasons the property allows holds — (a) a forced-break document
starts later on the same line (`scanE = none`), or (b) the flat text of the group and what follows it on the
line exceeds the available page/ribbon width (incl. no width being left at all), or (c) only under the smart
strategy: the one-line lookahead would have accepted, and the smart lookahead rejected a *following* line. -/
theorem broken_only_if (cfg : Cfg) (col i : Int) (d : Doc) (r : List Triple)
    (hc : AllClassic ((i, .flat, .doc d) :: r))
    (hbrk : fits cfg (min col i) (avail cfg.w cfg.rw col i) ((i, .flat, .doc d) :: r) = false) :
    scanE (strip ((i, .flat, .doc d) :: r)) = none
    ∨ (∃ n, scanE (strip ((i, .flat, .doc d) :: r)) = some n ∧ avail cfg.w cfg.rw col i < (n : Int))
    ∨ (cfg.smart = true ∧ fitsFast cfg (avail cfg.w cfg.rw col i) (avail cfg.w cfg.rw col i) ((i, .flat, .doc d) :: r) = true) := by
  by_cases hfast : fitsFast cfg (avail cfg.w cfg.rw col i) (avail cfg.w cfg.rw col i) ((i, .flat, .doc d) :: r) = true
  · -- the one-line predicate accepts, the decision was to break: the strategy is the smart one
    refine .inr (.inr ⟨?_, hfast⟩)
    cases hs : cfg.smart
    · rw [fits_fast hs, hfast] at hbrk; cases hbrk
    · rfl
  · rw [fits_iff_spec cfg _ _ _ hc] at hfast
    cases hs : scanE (strip ((i, .flat, .doc d) :: r)) with
    | none => exact .inl rfl
    | some n => exact .inr (.inl ⟨n, rfl, Int.not_le.mp fun hle => hfast ⟨by omega, n, hs, hle⟩⟩)

/-- conversely a group is laid out flat only if it fits (both strategies): C05's premise is C06's converse -/
theorem flat_only_if (cfg : Cfg) (col i : Int) (d : Doc) (r : List Triple)
    (hc : AllClassic ((i, .flat, .doc d) :: r))
    (hflat : fits cfg (min col i) (avail cfg.w cfg.rw col i) ((i, .flat, .doc d) :: r) = true) :
    ∃ n, scanE (strip ((i, .flat, .doc d) :: r)) = some n ∧ (n : Int) ≤ avail cfg.w cfg.rw col i := by
  exact ((fitsE_iff_scan _ _).mp (fits_imp_fitsE hc hflat)).2

end PP.C06
