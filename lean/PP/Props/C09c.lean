/-
C09, the evaluation clause, for both kinds of comments: what is printed for a commented value reads back (reader of
Spec/Reader.lean) to exactly what the uncommented value reads back to.  `trailing_comment` is not token-inert (it adds a
comma before the closing bracket), but the comma is one the grammar allows, so the *reading* is unchanged.
-/
import PP.Spec.Comments
import PP.Props.C01b
namespace PP.C09
open PP Doc Pr Tok

theorem bareL_isEmpty (xs : List PyVal) : (bareL xs).isEmpty = xs.isEmpty := by rw [bareL_eq_map, List.isEmpty_map]
theorem bareK_isEmpty (xs : List (Str × PyVal)) : (bareK xs).isEmpty = xs.isEmpty := by rw [bareK_eq_map, List.isEmpty_map]
theorem bareP_isEmpty (xs : List (PyVal × PyVal)) : (bareP xs).isEmpty = xs.isEmpty := by rw [bareP_eq_map, List.isEmpty_map]

theorem isListLit_bare (x : PyVal) : isListLit (stripComments (bare x)) = isListLit (stripComments x) := by
  induction x using PyVal.induct with
  | commented v t ih | trailing v t ih => exact ih
  | seq k c xs =>
    cases xs with
    | nil => rfl
    | cons y ys => cases k <;> cases c <;> rfl
  | _ => rfl

theorem fsetLit_bare (f : QualName) (args : List PyVal) (kwargs : List (Str × PyVal)) :
    fsetLit f (bareL args) (bareK kwargs) = fsetLit f args kwargs := by
  have ha : soleListLit (bareL args) = soleListLit args :=
    match args with
    | [] | _ :: _ :: _ => rfl
    | [x] => isListLit_bare x
  simp only [fsetLit, bareK_isEmpty, ha]

theorem floatPh_bare {f : QualName} {args : List PyVal} {kwargs : List (Str × PyVal)} (h : floatPh f args kwargs = true) :
    floatPh f (bareL args) (bareK kwargs) = true := by
  obtain ⟨_, rfl, rfl⟩ := floatPh_spec h; exact h

theorem eraseL_bareL {xs : List PyVal} (h : ∀ x ∈ xs, erase (bare x) = erase x) : eraseL (bareL xs) = eraseL xs := by
  rw [eraseL_eq_map, eraseL_eq_map, bareL_eq_map, List.map_map]; exact List.map_congr_left h
theorem eraseK_bareK {kws : List (Str × PyVal)} (h : ∀ p ∈ kws, erase (bare p.2) = erase p.2) : eraseK (bareK kws) = eraseK kws := by
  rw [eraseK_eq_map, eraseK_eq_map, bareK_eq_map, List.map_map]
  exact List.map_congr_left fun p hp => congrArg _ (h p hp)
theorem eraseP_bareP {kvs : List (PyVal × PyVal)} (h : ∀ p ∈ kvs, erase (bare p.1) = erase p.1 ∧ erase (bare p.2) = erase p.2) :
    eraseP (bareP kvs) = eraseP kvs := by
  rw [eraseP_eq_map, eraseP_eq_map, bareP_eq_map, List.map_map]
  exact List.map_congr_left fun p hp => Prod.ext (h p hp).1 (h p hp).2

/-- comments are invisible to what a value denotes -/
theorem erase_bare : (v : PyVal) → erase (bare v) = erase v := by
  intro v
  induction v using PyVal.induct with
  | commented v t ih | trailing v t ih => exact ih
  | seq k c xs ih | frozenset c xs ih => simp only [bare, erase, eraseL_bareL ih, bareL_isEmpty]
  | dict c kvs ih => simp only [bare, erase, eraseP_bareP ih, bareP_isEmpty]
  | call f args kwargs iha ihk => simp only [bare, erase, eraseL_bareL iha, eraseK_bareK ihk, fsetLit_bare]
  | _ => rfl

theorem eraseL_bare : (xs : List PyVal) → eraseL (bareL xs) = eraseL xs :=
  fun _ => eraseL_bareL fun x _ => erase_bare x
theorem eraseK_bare : (xs : List (Str × PyVal)) → eraseK (bareK xs) = eraseK xs :=
  fun _ => eraseK_bareK fun p _ => erase_bare p.2
theorem eraseP_bare : (xs : List (PyVal × PyVal)) → eraseP (bareP xs) = eraseP xs :=
  fun _ => eraseP_bareP fun p _ => ⟨erase_bare p.1, erase_bare p.2⟩

theorem inRdL_bareL {xs : List PyVal} (ih : ∀ x ∈ xs, inRd x = true → inRd (bare x) = true) :
    inRdL xs = true → inRdL (bareL xs) = true := by
  rw [inRdL_iff, inRdL_iff, bareL_eq_map]; exact fun h => List.forall_mem_map.mpr fun x hx => ih x hx (h x hx)
theorem inRdK_bareK {kws : List (Str × PyVal)} (ih : ∀ p ∈ kws, inRd p.2 = true → inRd (bare p.2) = true) :
    inRdK kws = true → inRdK (bareK kws) = true := by
  rw [inRdK_iff, inRdK_iff, bareK_eq_map]
  exact fun h => List.forall_mem_map.mpr fun p hp => ⟨(h p hp).1, ih p hp (h p hp).2⟩
theorem inRdP_bareP {kvs : List (PyVal × PyVal)}
    (ih : ∀ p ∈ kvs, (inRd p.1 = true → inRd (bare p.1) = true) ∧ (inRd p.2 = true → inRd (bare p.2) = true)) :
    inRdP kvs = true → inRdP (bareP kvs) = true := by
  rw [inRdP_iff, inRdP_iff, bareP_eq_map]
  exact fun h => List.forall_mem_map.mpr fun p hp => ⟨(ih p hp).1 (h p hp).1, (ih p hp).2 (h p hp).2⟩

theorem inRd_bare : (v : PyVal) → inRd v = true → inRd (bare v) = true := by
  intro v
  induction v using PyVal.induct with
  | commented v t ih => exact ih
  | trailing v t ih => exact fun h => ih (Bool.and_eq_true_iff.mp h).1
  | seq k c xs ih | frozenset c xs ih =>
    simp only [bare, inRd, Bool.and_eq_true]; exact fun h => ⟨h.1, inRdL_bareL ih h.2⟩
  | dict c kvs ih =>
    simp only [bare, inRd, Bool.and_eq_true]; exact fun h => ⟨h.1, inRdP_bareP ih h.2⟩
  | call f args kwargs iha ihk =>
    simp only [bare, inRd, fsetLit_bare, Bool.and_eq_true, Bool.or_eq_true]
    exact fun h => ⟨⟨h.1.1.imp_right floatPh_bare, inRdL_bareL iha h.1.2⟩, inRdK_bareK ihk h.2⟩
  | _ => exact id

theorem inRdL_bare : (xs : List PyVal) → inRdL xs = true → inRdL (bareL xs) = true :=
  fun _ => inRdL_bareL fun x _ => inRd_bare x
theorem inRdK_bare : (xs : List (Str × PyVal)) → inRdK xs = true → inRdK (bareK xs) = true :=
  fun _ => inRdK_bareK fun p _ => inRd_bare p.2
theorem inRdP_bare : (xs : List (PyVal × PyVal)) → inRdP xs = true → inRdP (bareP xs) = true :=
  fun _ => inRdP_bareP fun p _ => ⟨inRd_bare p.1, inRd_bare p.2⟩

theorem wf_bare : (v : PyVal) → wfVal v → wfVal (bare v) := by
  intro v
  induction v using PyVal.induct with
  | commented v t ih | trailing v t ih => exact ih
  | seq _ _ xs ih | frozenset _ xs ih => simp only [bare, wfVal, bareL_eq_map]; exact wfVals_map ih
  | dict _ kvs ih => simp only [bare, wfVal, bareP_eq_map]; exact wfPairs_map ih
  | call _ a k iha ihk =>
    simp only [bare, wfVal, bareL_eq_map, bareK_eq_map]; exact fun h => ⟨wfVals_map iha h.1, wfKws_map ihk h.2⟩
  | _ => exact id

theorem wfL_bare : (xs : List PyVal) → wfVals xs → wfVals (bareL xs) :=
  fun xs h => bareL_eq_map xs ▸ wfVals_map (fun x _ => wf_bare x) h
theorem wfK_bare : (xs : List (Str × PyVal)) → wfKws xs → wfKws (bareK xs) :=
  fun xs h => bareK_eq_map xs ▸ wfKws_map (fun p _ => wf_bare p.2) h
theorem wfP_bare : (xs : List (PyVal × PyVal)) → wfPairs xs → wfPairs (bareP xs) :=
  fun xs h => bareP_eq_map xs ▸ wfPairs_map (fun p _ => ⟨wf_bare p.1, wf_bare p.2⟩) h

/-- **C09.comments_do_not_change_the_reading** — for every value of the readable fragment (built-ins, subclass instances,
call-style objects; `comment()` and `trailing_comment()` wrappers with any text at any nodes — except a non-empty trailing
comment on an empty dict-subclass instance, K7), with the limits off, at every width / ribbon / indent: the printed text of
the commented value and the printed text of the bare value have (up to literal splitting) token sequences that the reader
reads as one and the same expression. -/
theorem comments_do_not_change_the_reading (s : Settings) (v : PyVal) (hw : wfVal v) (hin : inRd v = true)
    (hd : s.depth = none) (hm : s.maxSeqLen = none) (hs : s.sortKeys = false) :
    ∃ r ts ts', TEq (ctoks (sdocsM s v)) ts ∧ parseV (need v) ts = some (r, []) ∧
      TEq (ctoks (sdocsM s (bare v))) ts' ∧ parseV (need (bare v)) ts' = some (r, []) := by
  obtain ⟨ts, h1, h2⟩ := C01.output_reads_back' s v hw hin hd hm hs
  obtain ⟨ts', h3, h4⟩ := C01.output_reads_back' s (bare v) (wf_bare v hw) (inRd_bare v hin) hd hm hs
  rw [erase_bare] at h4
  exact ⟨erase v, ts, ts', h1, h2, h3, h4⟩

end PP.C09
