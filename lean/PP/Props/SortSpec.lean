/-
What `sort_dict_keys=True` does to the entries of a dict, as a specification of the model's `sortK` against the contract of
Python's `sorted` (ordered by `<`, stable): whenever `<` — `_AlwaysSortable.__lt__` on the comment-free keys — is a strict weak
order on the keys of the dict (irreflexive, transitive, incomparability transitive: every dict whose keys are mutually
comparable, and the type-name fallback of F23 on keys that are not), the result is a permutation (`C01.sortK_perm`) that is
ordered (`sortK_ordered`) and keeps the insertion order of entries `<` cannot tell apart (`sortK_stable`).
-/
import PP.Proofs.SortK
namespace PP.Sort
open PP Pr

variable {α : Type}

/-- `<` on entries: `_AlwaysSortable(_without_comments(key))` -/
def lt (a b : PyVal × α) : Bool := keyLt (sortKey a.1) (sortKey b.1)

/-- entries `<` cannot tell apart -/
def equiv (e z : PyVal × α) : Bool := !lt e z && !lt z e

/-- no entry is smaller than an entry before it -/
def Ordered (l : List (PyVal × α)) : Prop := l.Pairwise (fun a b => lt b a = false)

/-- `<` is a strict weak order on the entries of `l` -/
structure StrictWeak (l : List (PyVal × α)) : Prop where
  irrefl : ∀ a ∈ l, lt a a = false
  trans : ∀ a ∈ l, ∀ b ∈ l, ∀ c ∈ l, lt a b = true → lt b c = true → lt a c = true
  ntrans : ∀ a ∈ l, ∀ b ∈ l, ∀ c ∈ l, lt a b = false → lt b c = false → lt a c = false

theorem StrictWeak.asymm {l : List (PyVal × α)} (h : StrictWeak l) {a b : PyVal × α} (ha : a ∈ l) (hb : b ∈ l)
    (hab : lt a b = true) : lt b a = false := by
  cases hba : lt b a with
  | false => rfl
  | true => have := h.trans a ha b hb a ha hab hba; rw [h.irrefl a ha] at this; cases this

/-- `x` passes the entries smaller than it and stops before the first `y` that is not, and whatever follows `y` is not smaller
than `x` either, since it is not smaller than `y`.  (`L`: the entries of the dict.) -/
theorem insertK_ordered {L : List (PyVal × α)} (hw : StrictWeak L) {x : PyVal × α} (hx : x ∈ L) :
    ∀ {l : List (PyVal × α)}, (∀ z ∈ l, z ∈ L) → Ordered l → Ordered (insertK x l)
  | [], _, _ => List.pairwise_singleton _ _
  | y :: r, hl, ho => by
    obtain ⟨hyr, hor⟩ := List.pairwise_cons.mp ho
    have hy := hl y List.mem_cons_self
    have hr := fun z hz => hl z (List.mem_cons_of_mem _ hz)
    rw [insertK]; split
    · rename_i hyx
      refine List.pairwise_cons.mpr ⟨fun z hz => ?_, insertK_ordered hw hx hr hor⟩
      rcases mem_insertK.mp hz with rfl | hz
      · exact hw.asymm hy hx hyx
      · exact hyr z hz
    · rename_i hyx
      have hyx : lt y x = false := Bool.eq_false_iff.mpr hyx
      refine List.pairwise_cons.mpr ⟨fun z hz => ?_, ho⟩
      rcases List.mem_cons.mp hz with rfl | hz
      · exact hyx
      · exact hw.ntrans z (hr z hz) y hy x hx (hyr z hz) hyx

theorem sortK_ordered_in {L : List (PyVal × α)} (hw : StrictWeak L) : ∀ (xs : List (PyVal × α)), (∀ z ∈ xs, z ∈ L) → Ordered (sortK xs)
  | [], _ => List.Pairwise.nil
  | x :: xs, h => by
    rw [sortK_cons]
    exact insertK_ordered hw (h x List.mem_cons_self) (fun z hz => h z (List.mem_cons_of_mem _ (mem_sortK.mp hz)))
      (sortK_ordered_in hw xs fun z hz => h z (List.mem_cons_of_mem _ hz))

/-- **Sort.sortK_ordered** — the entries come out in ascending order of their keys -/
theorem sortK_ordered : ∀ (xs : List (PyVal × α)), StrictWeak xs → Ordered (sortK xs)
  | xs, hw => sortK_ordered_in hw xs fun _ h => h

theorem insertK_filter (p : PyVal × α → Bool) (x : PyVal × α) :
    ∀ (l : List (PyVal × α)), (p x = true → ∀ y ∈ l, lt y x = true → p y = false) → (insertK x l).filter p = (x :: l).filter p
  | [], _ => rfl
  | y :: r, h => by
    rw [insertK]; split
    · rename_i hyx
      rw [List.filter_cons, insertK_filter p x r fun hx z hz => h hx z (List.mem_cons_of_mem _ hz)]
      cases hx : p x with
      | false => simp [List.filter_cons, hx]
      | true => simp [hx, h hx y List.mem_cons_self hyx]
    · rfl

/-- **Sort.sortK_stable** — entries whose keys `<` cannot tell apart keep their insertion order: for every entry `e`, the
entries equivalent to `e` appear in the result exactly as they appear in the dict -/
theorem sortK_stable (e : PyVal × α) : ∀ (xs : List (PyVal × α)),
    (∀ y ∈ xs, ∀ x ∈ xs, lt y e = false → lt e x = false → lt y x = false) →
    (sortK xs).filter (equiv e) = xs.filter (equiv e)
  | [], _ => rfl
  | x :: xs, hn => by
    have ih := sortK_stable e xs fun y hy x' hx' => hn y (List.mem_cons_of_mem _ hy) x' (List.mem_cons_of_mem _ hx')
    rw [sortK_cons, insertK_filter, List.filter_cons, List.filter_cons, ih]
    -- `x ~ e` passes no `y ~ e`: from `y ≥ e ≥ x` the hypothesis gives `y ≥ x`
    intro hex y hy hyx
    cases hey : equiv e y with
    | false => rfl
    | true =>
      simp only [equiv, Bool.and_eq_true, Bool.not_eq_true'] at hex hey
      cases hyx.symm.trans (hn y (List.mem_cons_of_mem _ (mem_sortK.mp hy)) x List.mem_cons_self hey.2 hex.1)

/-- non-vacuity and the point of the model's insertion direction: two tuple keys that `<` cannot order (`(1, None)` and
`(1, 'a')`: comparing `None` with a str raises, and both are tuples) keep their insertion order -/
example : (sortK [((PyVal.seq 1 none [.int none 1 [49], .none], 0) : PyVal × Nat), (.seq 1 none [.int none 1 [49], .str none false []], 1)]).map (·.2)
    = [0, 1] := by decide +kernel

/-- the hypothesis is met by ordinary dicts — here number keys, a str key and a tuple key, which the type-name fallback ranks
`int` < `str` < `tuple` — and the conclusion computed on them -/
example : StrictWeak [((PyVal.int none 2 [50], 0) : PyVal × Nat), (.str none false [], 1), (.int none 1 [49], 2), (.seq 1 none [.none], 3)] :=
  ⟨by decide +kernel, by decide +kernel, by decide +kernel⟩
example : (sortK [((PyVal.int none 2 [50], 0) : PyVal × Nat), (.str none false [], 1), (.int none 1 [49], 2), (.seq 1 none [.none], 3)]).map (·.2)
    = [2, 0, 1, 3] := by decide +kernel

end PP.Sort
