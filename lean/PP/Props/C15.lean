/-
C15 — printer dispatch follows the class hierarchy for every registration history.
Refinement of the registry state machine (M4) to the history-defined specification.  The abstraction is `eff`, the effective
registration of a class: the state machine acts on `(eff, preds)` exactly as the history acts on `(latest, predsOf)`, and
singledispatch returns the nearest effective registration of an MRO as soon as that class has no pending by-name entry.
-/
import PP.Model.Registry
namespace PP.C15
open PP Reg

/-- the effective registration of a class in a state: a pending by-name entry wins over the live registry -/
def eff (s : State) (c : Cls) : Option Pr := (s.deferred c).orElse fun _ => s.reg c

def firstEff (s : State) : List Cls → Option Pr
  | [] => none
  | c :: r => match eff s c with
    | some p => some p
    | none => firstEff s r

structure Inv (s : State) (h : List Op) : Prop where
  eff_latest : ∀ c, eff s c = latest h c
  preds_eq : s.preds = predsOf h

@[simp] theorem upd_same (f : Cls → Option Pr) (c : Cls) (v : Option Pr) : upd f c v c = v := if_pos rfl

@[simp] theorem upd_of_ne {x c : Cls} (h : x ≠ c) (f : Cls → Option Pr) (v : Option Pr) : upd f c v x = f x := if_neg h

theorem upd_eq_self {f : Cls → Option Pr} {c : Cls} {v : Option Pr} (h : f c = v) : upd f c v = f := by
  funext x; by_cases hx : x = c <;> simp [hx, h]

theorem upd_none_of_none {f : Cls → Option Pr} {x : Cls} (h : f x = none) (c : Cls) : upd f c none x = none := by
  by_cases hx : x = c <;> simp [hx, h]

theorem eff_of_pending {s : State} {c : Cls} {p : Pr} (h : s.deferred c = some p) : eff s c = some p := by
  simp [eff, h]

theorem eff_of_clear {s : State} {c : Cls} (h : s.deferred c = none) : eff s c = s.reg c := by simp [eff, h]

theorem eff_eq_none {s : State} {c : Cls} : eff s c = none ↔ s.deferred c = none ∧ s.reg c = none := by
  cases hd : s.deferred c <;> simp [eff, hd]

theorem eff_regClass (s : State) (c : Cls) (p : Pr) : eff (regClass s c p) = upd (eff s) c (some p) := by
  funext x; by_cases hx : x = c <;> simp [eff, regClass, hx]

theorem eff_regName (s : State) (c : Cls) (p : Pr) : eff (regName s c p) = upd (eff s) c (some p) := by
  funext x; by_cases hx : x = c <;> simp [eff, regName, hx]

theorem promote_of_pending {s : State} {c : Cls} {p : Pr} (h : s.deferred c = some p) :
    promote s c p = regClass s c p := by simp [promote, regClass, h]

end PP.C15

/-! `ClearPrefix` and `Good` are the notions the thread invariant of C20 is stated with; the sequential `is_registered`
is the same algorithm run without interruption, and is proved through them too. -/
namespace PP.C20
open PP Reg C15

def ClearPrefix (s : State) (mro : List Cls) (rest : List Cls) : Prop :=
  ∃ pre, mro = pre ++ rest ∧ ∀ x ∈ pre, s.deferred x = none

/-- the first class of the list with an effective registration has no pending deferred entry -/
def Good (s0 s : State) : List Cls → Prop
  | [] => True
  | x :: r => if (eff s0 x).isSome then s.deferred x = none else Good s0 s r

theorem ClearPrefix.mono {s s' : State} (hm : ∀ x, s.deferred x = none → s'.deferred x = none) {mro rest}
    (h : ClearPrefix s mro rest) : ClearPrefix s' mro rest := by
  obtain ⟨pre, e, hc⟩ := h
  exact ⟨pre, e, fun x hx => hm x (hc x hx)⟩

theorem ClearPrefix.step {s : State} {mro rest} {x : Cls} (h : ClearPrefix s mro (x :: rest))
    (hx : s.deferred x = none) : ClearPrefix s mro rest := by
  obtain ⟨pre, e, hc⟩ := h
  exact ⟨pre ++ [x], by simp [e], by simpa [or_imp, forall_and, hx] using hc⟩

theorem good_head {s0 s : State} {c : Cls} (hc : s.deferred c = none) (he : (eff s0 c).isSome) (post : List Cls) :
    Good s0 s (c :: post) := by simp [Good, he, hc]

theorem ClearPrefix.good {s0 s : State} {mro rest} (h : ClearPrefix s mro rest) (hr : Good s0 s rest) :
    Good s0 s mro := by
  obtain ⟨pre, rfl, hc⟩ := h
  induction pre with
  | nil => exact hr
  | cons x pre ih =>
    simp only [List.cons_append, Good]
    split
    · exact hc x (by simp)
    · exact ih fun y hy => hc y (by simp [hy])

theorem dispatch_of_good {s0 s : State} (he : ∀ c, eff s c = eff s0 c) :
    ∀ l, Good s0 s l → dispatch s l = firstEff s0 l
  | [], _ => rfl
  | x :: r, h => by
    simp only [Good] at h
    simp only [dispatch, firstEff, ← he x]
    split at h
    · rename_i hx
      rw [← eff_of_clear h]
      obtain ⟨q, hq⟩ := Option.isSome_iff_exists.mp (he x ▸ hx)
      simp [hq]
    · rename_i hx
      have hn : eff s x = none := by simpa [he x] using hx
      rw [(eff_eq_none.mp hn).2, hn]
      exact dispatch_of_good he r h

end PP.C20

namespace PP.C15
open PP Reg C20

theorem firstDeferred_some {s : State} {l : List Cls} {c : Cls} {p : Pr} (h : firstDeferred s l = some (c, p)) :
    s.deferred c = some p ∧ ∃ post, ClearPrefix s l (c :: post) := by
  fun_induction firstDeferred s l
  case case1 => cases h
  case case2 x r q hq => cases h; exact ⟨hq, r, [], rfl, by simp⟩
  case case3 x r hx ih =>
    obtain ⟨hd, post, pre, e, hc⟩ := ih h
    exact ⟨hd, post, x :: pre, by simp [e], by simpa [hx] using hc⟩

theorem firstDeferred_none {s : State} {l : List Cls} (h : firstDeferred s l = none) : ∀ x ∈ l, s.deferred x = none := by
  fun_induction firstDeferred s l <;> simp_all

/-- `is_registered` changes the state only by registering the first pending entry along the MRO directly, and that only
with `register_deferred` -/
theorem isRegistered_state {P : State → Prop} (s : State) (mro : List Cls) (f : Flags) (h0 : P s)
    (h1 : ∀ c p, f.registerDeferred = true → firstDeferred s mro = some (c, p) → P (regClass s c p)) :
    P (isRegistered s mro f).1 := by
  have hp : ∀ {c p}, firstDeferred s mro = some (c, p) → P (if f.registerDeferred then promote s c p else s) := by
    intro c p h
    by_cases hr : f.registerDeferred = true
    · rw [if_pos hr, promote_of_pending (firstDeferred_some h).1]; exact h1 c p hr h
    · rwa [if_neg hr]
  -- a pending entry is found on the type itself (case 3) or among its supertypes (case 6), and only with `check_deferred`
  fun_cases isRegistered s mro f
  case case3 hd =>
    cases hcd : f.checkDeferred <;> simp only [hcd, if_true, if_false, reduceCtorEq, Bool.false_eq_true] at hd
    exact hp (by simp [firstDeferred, hd])
  case case6 hn _ _ _ _ hd =>
    cases hcd : f.checkDeferred <;> simp only [hcd, if_true, if_false, reduceCtorEq, Bool.false_eq_true] at hn hd
    exact hp (by simp [firstDeferred, hn, hd])
  all_goals exact h0

/-- **C15.no_effect** — with `register_deferred = False`, `is_registered` leaves the state untouched, hence has no
effect on any later dispatch -/
theorem no_effect (s : State) (mro : List Cls) (f : Flags) (h : f.registerDeferred = false) :
    (isRegistered s mro f).1 = s :=
  isRegistered_state (P := (· = s)) s mro f rfl fun _ _ hr => by simp [h] at hr

/-- the pending entry was effective already -/
theorem eff_isRegistered (s : State) (mro : List Cls) (f : Flags) : eff (isRegistered s mro f).1 = eff s :=
  isRegistered_state (P := (eff · = eff s)) s mro f rfl fun c p _ hp => by
    rw [eff_regClass, upd_eq_self (eff_of_pending (firstDeferred_some hp).1)]

theorem preds_isRegistered (s : State) (mro : List Cls) (f : Flags) : (isRegistered s mro f).1.preds = s.preds :=
  isRegistered_state (P := (·.preds = s.preds)) s mro f rfl fun _ _ _ _ => rfl

theorem good_after_isRegistered (s : State) (mro : List Cls) :
    Good (isRegistered s mro ⟨true, true, true⟩).1 (isRegistered s mro ⟨true, true, true⟩).1 mro := by
  have promoted : ∀ {sc p}, firstDeferred s mro = some (sc, p) → Good (promote s sc p) (promote s sc p) mro := by
    intro sc p hp
    obtain ⟨hd, post, hcp⟩ := firstDeferred_some hp
    rw [promote_of_pending hd]
    exact (hcp.mono fun x hx => upd_none_of_none hx sc).good
      (good_head (upd_same ..) (by simp [eff_regClass]) post)
  -- cases 3 and 6 as in `isRegistered_state`; the flags being `true`, each condition the cases bring is what it says
  -- about `s` (`show`)
  fun_cases isRegistered s mro ⟨true, true, true⟩
  case case1 h => cases h
  case case2 => trivial
  case case3 hd => exact promoted (by simp [firstDeferred, show s.deferred _ = some _ from hd])
  case case4 c r hd hr => exact good_head hd (by rwa [eff_of_clear hd]) r
  case case5 h => cases h
  case case6 hc _ _ _ _ hd =>
    exact promoted (by simp [firstDeferred, show s.deferred _ = none from hc, show firstDeferred s _ = some _ from hd])
  case case7 c r hc _ _ hp =>
    exact ClearPrefix.good (rest := []) ⟨c :: r, by simp, by simpa [show s.deferred c = none from hc] using firstDeferred_none hp⟩ trivial

/-- after `is_registered(type, True, True, True)` singledispatch picks the nearest effective registration -/
theorem dispatch_after_isRegistered (s : State) (mro : List Cls) :
    dispatch (isRegistered s mro ⟨true, true, true⟩).1 mro = firstEff (isRegistered s mro ⟨true, true, true⟩).1 mro :=
  dispatch_of_good (fun _ => rfl) mro (good_after_isRegistered s mro)

theorem firstEff_congr {s s' : State} (h : eff s = eff s') : ∀ l, firstEff s l = firstEff s' l
  | [] => rfl
  | c :: r => by simp only [firstEff, h, firstEff_congr h r]

theorem dispatch_isRegistered (s : State) (mro : List Cls) :
    dispatch (isRegistered s mro ⟨true, true, true⟩).1 mro = firstEff s mro :=
  (dispatch_after_isRegistered s mro).trans (firstEff_congr (eff_isRegistered s mro _) mro)

theorem latest_concat (h : List Op) (op : Op) : latest (h ++ [op]) = match op with
    | .regClass c p | .regName c p => upd (latest h) c (some p)
    | _ => latest h := by
  funext x; unfold latest; rw [List.foldl_append]
  cases op with
  | regClass c p | regName c p => exact ite_congr (propext eq_comm) (fun _ => rfl) fun _ => rfl
  | _ => rfl

theorem predsOf_concat (h : List Op) (op : Op) :
    predsOf (h ++ [op]) = predsOf h ++ match op with | .regPred q p => [(q, p)] | _ => [] := by
  unfold predsOf; rw [List.filterMap_append]; cases op <;> rfl

theorem eff_step (s : State) (op : Op) : eff (step s op) = match op with
    | .regClass c p | .regName c p => upd (eff s) c (some p)
    | _ => eff s := by
  cases op with
  | regClass c p => exact eff_regClass s c p
  | regName c p => exact eff_regName s c p
  | regPred q p => rfl
  | print mro acc => exact eff_isRegistered s mro _
  | query mro f => exact eff_isRegistered s mro f

theorem preds_step (s : State) (op : Op) :
    (step s op).preds = s.preds ++ match op with | .regPred q p => [(q, p)] | _ => [] := by
  cases op with
  | regPred q p => rfl
  | print mro acc => exact (preds_isRegistered s mro _).trans (List.append_nil _).symm
  | query mro f => exact (preds_isRegistered s mro f).trans (List.append_nil _).symm
  | _ => exact (List.append_nil _).symm

theorem inv_step {s : State} {h : List Op} (hi : Inv s h) (op : Op) : Inv (step s op) (h ++ [op]) :=
  ⟨fun c => by rw [eff_step, latest_concat, funext hi.eff_latest],
   by rw [preds_step, predsOf_concat, hi.preds_eq]⟩

theorem inv_foldl {s : State} {pre : List Op} (hi : Inv s pre) : ∀ ops, Inv (ops.foldl step s) (pre ++ ops) := by
  intro ops
  induction ops generalizing s pre with
  | nil => simpa using hi
  | cons op r ih => simpa using ih (inv_step hi op)

theorem inv_run (h : List Op) : Inv (run h) h := by
  simpa [run] using inv_foldl (s := init) (pre := []) ⟨fun _ => rfl, rfl⟩ h

theorem Inv.firstEff {s : State} {h : List Op} (hi : Inv s h) : ∀ l, firstEff s l = specNearest h l
  | [] => rfl
  | c :: r => by simp only [C15.firstEff, specNearest, hi.eff_latest c, hi.firstEff r]; rfl

theorem Inv.printValue {s : State} {h : List Op} (hi : Inv s h) (mro : List Cls) (accepts : Nat → Bool) :
    (printValue s mro accepts).2 = specPrinter h mro accepts := by
  simp only [Reg.printValue, specPrinter, dispatch_isRegistered, hi.firstEff, preds_isRegistered, hi.preds_eq]

/-- **C15.refines** — for *every* history of registrations (by class, by name, by predicate), prints and
`is_registered` queries, and every value: the printer that runs is the latest registration of the nearest class in
the value's MRO that has one (deferred and direct registration being equivalent), otherwise the first-registered
predicate accepting the value, otherwise repr. -/
theorem refines (h : List Op) (mro : List Cls) (accepts : Nat → Bool) :
    (printValue (run h) mro accepts).2 = specPrinter h mro accepts :=
  (inv_run h).printValue mro accepts

def IsRead (op : Op) : Prop := (∃ m a, op = .print m a) ∨ (∃ m f, op = .query m f)

theorem inv_reads {s : State} {h : List Op} (hi : Inv s h) :
    ∀ ops : List Op, (∀ op ∈ ops, IsRead op) → Inv (ops.foldl step s) h
  | [], _ => hi
  | op :: r, hp => by
    have hr : Inv (step s op) h := by
      rcases hp op (by simp) with ⟨m, a, rfl⟩ | ⟨m, f, rfl⟩
      all_goals exact ⟨fun c => by rw [eff_step]; exact hi.eff_latest c, by simpa [preds_step] using hi.preds_eq⟩
    exact inv_reads hr r fun o ho => hp o (by simp [ho])

/-- **C15.history_independent** (C19, registry part) — printing and querying never change what a later print shows: the
printer chosen depends on the registration history alone, not on which values were printed before, in which order or how often -/
theorem history_independent (h : List Op) (prints : List Op) (hp : ∀ op ∈ prints, IsRead op)
    (mro : List Cls) (accepts : Nat → Bool) :
    (printValue (run (h ++ prints)) mro accepts).2 = (printValue (run h) mro accepts).2 := by
  rw [refines h, run, List.foldl_append]
  exact (inv_reads (inv_run h) prints hp).printValue mro accepts

end PP.C15
