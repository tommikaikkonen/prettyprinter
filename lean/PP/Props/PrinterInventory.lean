/-
C07 ("no printer shipped with the package ...") quantifies over the printers the package ships.  Which ones those are is read
off the source on every run: `Generated.shippedPrinters` lists every `register_pretty` decorator / call of prettyprinter.py
and pretty_stdlib.py, and must equal the list below, which says where each one lives in the models.
-/
import PP.Generated
namespace PP.C07

def modelledPrinters : List String := [
  "prettyprinter.py:type:pretty_type",   -- Std: identifier of the class (C07 corpus: classes as values)
  "prettyprinter.py:FunctionType:pretty_function",   -- Std: identifier of the function (C07 corpus: functions inside partial)
  "prettyprinter.py:BuiltinFunctionType:pretty_builtin_function",   -- Std: identifier of the builtin (C07 corpus: int, sorted, len inside partial)
  "prettyprinter.py:SimpleNamespace:pretty_simplenamespace",   -- Std: call shape with keyword arguments
  "prettyprinter.py:tuple:pretty_bracketable_iterable",   -- Values.toDoc, .seq (C01 / C08 / C10 / C11)
  "prettyprinter.py:list:pretty_bracketable_iterable",   -- Values.toDoc, .seq (C01 / C08 / C10 / C11)
  "prettyprinter.py:set:pretty_bracketable_iterable",   -- Values.toDoc, .seq (C01 / C08 / C10 / C11)
  "prettyprinter.py:frozenset:pretty_frozenset",   -- Values.toDoc, .frozenset
  "prettyprinter.py:dict:pretty_dict",   -- Values.toDoc, .dict
  "prettyprinter.py:float:pretty_float",   -- Values.toDoc, .float
  "prettyprinter.py:int:pretty_int",   -- Values.toDoc, .int
  "prettyprinter.py:type(...):pretty_ellipsis",   -- Values.toDoc, .ellipsis
  "prettyprinter.py:bool:pretty_bool",   -- Values.toDoc, .bool
  "prettyprinter.py:type(None):pretty_none",   -- Values.toDoc, .none
  "prettyprinter.py:str:pretty_str",   -- Values.toDoc, .str with Model/StrDoc + PyStr (C02)
  "prettyprinter.py:bytes:pretty_str",   -- Values.toDoc, .str with Model/StrDoc + PyStr (C02)
  "pretty_stdlib.py:'uuid.UUID':pretty_uuid",   -- Std: call shape
  "pretty_stdlib.py:datetime:pretty_datetime",   -- Std.showDatetime (C07.time_fields, datetime_date_only)
  "pretty_stdlib.py:tzinfo:pretty_tzinfo",   -- Std: identifier for utc, else repr (.opaque)
  "pretty_stdlib.py:timezone:pretty_timezone",   -- Std.showTimezone
  "pretty_stdlib.py:time:pretty_time",   -- Std.showTime (C07.time_fields)
  "pretty_stdlib.py:date:pretty_date",   -- Std.showDate
  "pretty_stdlib.py:timedelta:pretty_timedelta",   -- Values.timedeltaDoc (C07.timedelta)
  "pretty_stdlib.py:ChainMap:pretty_chainmap",   -- Std.showChainMap (C07.chainmap_shortcut)
  "pretty_stdlib.py:defaultdict:pretty_defaultdict",   -- Std: call shape (factory, dict)
  "pretty_stdlib.py:deque:pretty_deque",   -- Std.showDeque (C07.deque_maxlen)
  "pretty_stdlib.py:OrderedDict:pretty_ordereddict",   -- Std: call shape around a list of pairs
  "pretty_stdlib.py:Counter:pretty_counter",   -- Std: call shape around a dict
  "pretty_stdlib.py:'enum.Enum':pretty_enum",   -- Std: .ident (class attribute)
  "pretty_stdlib.py:'builtins.mappingproxy':pretty_mappingproxy",   -- Std: call shape around a dict
  "pretty_stdlib.py:'functools.partial':pretty_partial",   -- Std: call shape (func, *args, **keywords)
  "pretty_stdlib.py:'functools.partialmethod':pretty_partial",   -- Std: call shape (func, *args, **keywords)
  "pretty_stdlib.py:BaseException:pretty_baseexception",   -- Std: call shape (args)
  "pretty_stdlib.py:'_ast.AST':pretty_nodes",   -- NOT modelled: registered for the name _ast.AST, which no class carries on CPython 3.12 (ast nodes live in module ast) - the printer is unreachable here; the pinned suite records this as its 3 failing tests/test_ast.py cases
  "pretty_stdlib.py:'pathlib.PurePath':pretty_path",   -- Values.toDoc, .path
  "pretty_stdlib.py:pytz.tzinfo.BaseTzInfo:pretty_pytz_timezone",   -- Std: call shape pytz.timezone(name)
  "pretty_stdlib.py:pytz.tzinfo.DstTzInfo:pretty_pytz_dst_timezone"]   -- Std: call shape pytz.timezone(name)

/-- the models cover exactly the printers the core package registers -/
theorem printer_inventory : Generated.shippedPrinters = modelledPrinters := rfl

end PP.C07
