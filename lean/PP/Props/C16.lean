/-
C16 — coloured output is the plain output plus well-nested styling.
-/
import PP.Model.Color
import PP.Generated
namespace PP.C16
open PP Color

theorem stripSGR_append (a b : List Out) : stripSGR (a ++ b) = stripSGR a ++ stripSGR b := by
  induction a with
  | nil => rfl
  | cons x r ih => cases x <;> simp [stripSGR, ih]

theorem finalState_append (a b : List Out) : ∀ c, finalState c (a ++ b) = finalState (finalState c a) b := by
  induction a with
  | nil => exact fun _ => rfl
  | cons x r ih => cases x <;> simp [finalState, ih]

theorem colorRender_eq (out : List SDoc) : colorRender out = (colorEvents [] (strippedStream out)).1 ++
    if (colorEvents [] (strippedStream out)).2.isEmpty then [] else [.reset] := by
  unfold colorRender
  generalize colorEvents [] (strippedStream out) = p
  obtain ⟨o, st⟩ := p
  cases st <;> simp

theorem strip_events (st : List Nat) (evs : List SDoc) : stripSGR (colorEvents st evs).1 = evs.flatMap writeSDoc := by
  fun_induction colorEvents st evs <;> simp_all [stripSGR, writeSDoc]

/-- **C16.strip** — for EVERY SDoc stream (any nesting of token and non-token annotations, balanced or not):
removing the styling from what the colour renderer writes gives exactly the plain rendering -/
theorem strip (out : List SDoc) : stripSGR (colorRender out) = render out := by
  have hr : render out = (strippedStream out).flatMap writeSDoc := by
    unfold render strippedStream renderLine; simp [List.flatMap_assoc]
  rw [colorRender_eq, stripSGR_append, strip_events, hr]
  split <;> simp [stripSGR]

/-- the terminal's state is the top of the colour stack throughout -/
theorem styled_events (st : List Nat) (evs : List SDoc) : styled st.head? (colorEvents st evs).1 = tagged st evs := by
  fun_induction colorEvents st evs <;> simp_all [styled, tagged]

theorem final_events (st : List Nat) (evs : List SDoc) :
    finalState st.head? (colorEvents st evs).1 = (colorEvents st evs).2.head? := by
  fun_induction colorEvents st evs <;> simp_all [finalState]

/-- **C16.innermost** — interpreting the written SGR sequences with the terminal's state machine,
every written character is shown in the style of the innermost open syntax-token annotation (reset state if there is
none); in particular the enclosing token's style is back in force after an inner token ends, and non-token
annotations inside or outside tokens change nothing -/
theorem innermost (out : List SDoc) :
    styled none (colorEvents [] (strippedStream out)).1 = tagged [] (strippedStream out) :=
  styled_events [] (strippedStream out)

/-- **C16.ends_reset** — whatever was rendered, the stream ends in the reset state: no colour leaks -/
theorem ends_reset (out : List SDoc) : finalState none (colorRender out) = none := by
  rw [colorRender_eq, finalState_append, show finalState none _ = _ from final_events [] (strippedStream out)]
  cases (colorEvents [] (strippedStream out)).2 <;> rfl

/-- **C16.table_total** — over the tables regenerated from `/repo` on every run: every syntax token the printers can
attach has an entry in the token → pygments table -/
theorem table_total : (Generated.emittedTokens.all fun t => Generated.colorTableKeys.contains t) = true := by decide

/-- every token name used anywhere is a member of the Token enum -/
theorem tokens_exist : (Generated.emittedTokens.all fun t => Generated.tokenNames.contains t) = true ∧
    (Generated.colorTableKeys.all fun t => Generated.tokenNames.contains t) = true := by decide

/-- the style builder is total: every one of the 32 attribute shapes yields a style that starts from reset -/
theorem styleOf_total (a : Attrs) : (styleOf a).head? = some .reset := by
  unfold styleOf; rfl

end PP.C16
