/-
C02 — string and bytes literals are reproduced exactly, however they are split.
-/
import PP.Proofs.StrLines
import PP.Model.StrDoc
import PP.Proofs.RoundTrip
namespace PP.C02
open PP PyStr

/-- **C02.lines_join** — for every positive line budget, quote, `str`/`bytes` value (with arbitrary character
classification bits) and split pattern: splitting never loses, duplicates or reorders characters. -/
theorem lines_join (isBytes slash : Bool) (maxLen : Nat) (hpos : 0 < maxLen) (q : Nat) (s : PS) :
    (strToLines isBytes slash maxLen hpos q s).flatten = s :=
  strToLines_join isBytes slash maxLen hpos q s

/-- **C02.lines_nonempty** — splitting never produces an empty piece. -/
theorem lines_nonempty (isBytes slash : Bool) (maxLen : Nat) (hpos : 0 < maxLen) (q : Nat) (s : PS) :
    ∀ l ∈ strToLines isBytes slash maxLen hpos q s, l ≠ [] :=
  strToLines_nonempty isBytes slash maxLen hpos q s

/-- **C02.budget_positive** — however little width is left, the evaluator hands `str_to_lines` a positive
budget (the 10-column floor), which is what its termination argument needs; termination itself is the
`termination_by` clause of `PyStr.go`. -/
theorem budget_positive (a : Int) : 0 < (max a 10).toNat := Pr.maxLen_pos a

/-- the quote strategy always answers with one of the two quote characters -/
theorem quote_is_quote (s : PS) : determineQuote s = SQ ∨ determineQuote s = DQ := determineQuote_is_quote s

/-- the pieces are at most as many as the characters -/
theorem lines_count (isBytes slash : Bool) (maxLen : Nat) (hpos : 0 < maxLen) (q : Nat) (s : PS) :
    (strToLines isBytes slash maxLen hpos q s).length ≤ s.length :=
  strToLines_count isBytes slash maxLen hpos q s

/-- **C02.escape_is_repr** — escape_str_for_quote(q, s) (repr, then the two replace chains if repr chose the other quote)
is exactly repr's escaping carried out with quote `q`, for `str` and `bytes` and every value -/
theorem escape_is_repr (isBytes : Bool) (q : Nat) (hq : q = SQ ∨ q = DQ) (s : PS) :
    escapeForQuote isBytes q s = reprBody isBytes q s := escapeForQuote_eq isBytes q hq s

/-- **C02.unescape_escape** — the escaped body, decoded as a Python literal quoted with `q`, is the original value:
no character is lost, duplicated or altered, whichever quote is forced on the piece -/
theorem unescape_escape (isBytes : Bool) (q : Nat) (hq : q = SQ ∨ q = DQ) (s : PS)
    (hw : ∀ c ∈ s, c.cp < (if isBytes then 256 else 1114112)) :
    unescape q (escapeForQuote isBytes q s) = some (cps s) := PyStr.unescape_escape isBytes q hq s hw

/-- pieces of a split string decode, piece by piece, to the original value: the concatenation of the decoded pieces
is the value (join theorem + per-piece round trip) -/
theorem pieces_decode (isBytes slash : Bool) (maxLen : Nat) (hpos : 0 < maxLen) (q : Nat) (hq : q = SQ ∨ q = DQ) (s : PS)
    (hw : ∀ c ∈ s, c.cp < (if isBytes then 256 else 1114112)) :
    ((strToLines isBytes slash maxLen hpos q s).map fun l => unescape q (escapeForQuote isBytes q l)) =
      (strToLines isBytes slash maxLen hpos q s).map fun l => some (cps l) := by
  apply List.map_congr_left
  intro l hl
  apply PyStr.unescape_escape isBytes q hq l
  intro c hc
  apply hw c
  have hj := lines_join isBytes slash maxLen hpos q s
  rw [← hj]
  exact List.mem_flatten.mpr ⟨l, hl, hc⟩

end PP.C02
