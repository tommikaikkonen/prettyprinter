/-
The code tokens of a document before any layout is chosen, the counterpart of `ctoks` (Spec/Tokens.lean) on a laid-out stream.
`toksOf` reads a document the way `ctoks` reads a rendering of it (comments dropped, the text of a `LITERAL_STRING` region decoded
into one literal), taking the broken alternative of every choice; `TInv P d` says that this loses nothing.
-/
import PP.Spec.Tokens
import PP.Spec.Companions
namespace PP
namespace Tok
open Doc PyStr

mutual
/-- the text of a literal region: fragments of a choice-free document, in order -/
def textOf : Doc → Str
  | .text s => s
  | .cat ds => textOfL ds
  | .ann _ d => textOf d
  | _ => []
def textOfL : List Doc → Str
  | [] => []
  | d :: r => textOf d ++ textOfL r
end

theorem textOfL_eq_flatMap : ∀ ds, textOfL ds = ds.flatMap textOf
  | [] => rfl
  | d :: r => by rw [textOfL, textOfL_eq_flatMap r, List.flatMap_cons]

mutual
/-- what may stand inside a literal region: texts, concatenations and annotations only, so that every rendering has the text `textOf` -/
def Plain : Doc → Bool
  | .nil => true
  | .text _ => true
  | .cat ds => PlainL ds
  | .ann _ d => Plain d
  | _ => false
def PlainL : List Doc → Bool
  | [] => true
  | d :: r => Plain d && PlainL r
end

theorem plainL_iff : ∀ ds, PlainL ds = true ↔ ∀ d ∈ ds, Plain d = true :=
  all_iff_of rfl fun _ _ => rfl

/-- canonical tokens of a string / bytes value printed by `pretty_str`: one literal, inside a constructor call for a subclass -/
def strCanon (sp : StrSpec) : List CT :=
  let l : List CT := (if sp.isBytes then [.code [98]] else []) ++ [.lit (some (cps sp.s))]
  match sp.cls with
  | none => l
  | some c => (if isBlank c.2 then [] else [.code c.2]) ++ [.code [40]] ++ l ++ [.code [41]]

mutual
/-- code tokens of a document, read off its broken alternatives -/
def toksOf : Doc → List CT
  | .nil => []
  | .text s => if isBlank s then [] else [.code s]
  | .hardline => []
  | .cat ds => toksOfL ds
  | .nest _ d => toksOf d
  | .group d => toksOf d
  | .choice _ b _ => toksOf b
  | .ab d => toksOf d
  | .fill ds => toksOfL ds
  | .ann (.tok t) d =>
      if t == Pr.tComment then [] else if t == Pr.tStr then [.lit (decodeLit (textOf d))] else toksOf d
  | .ann _ d => toksOf d
  | .align d => toksOf d
  | .pstr sp => strCanon sp
def toksOfL : List Doc → List CT
  | [] => []
  | d :: r => toksOf d ++ toksOfL r
end

theorem toksOfL_eq_flatMap : ∀ ds, toksOfL ds = ds.flatMap toksOf
  | [] => rfl
  | d :: r => by rw [toksOfL, toksOfL_eq_flatMap r, List.flatMap_cons]

mutual
/-- layout-invariant documents: both alternatives of every choice carry the same tokens, literal regions are plain
text, string contextuals satisfy `P` -/
def TInv (P : StrSpec → Prop) : Doc → Prop
  | .nil => True
  | .text _ => True
  | .hardline => True
  | .cat ds => TInvL P ds
  | .nest _ d => TInv P d
  | .group d => TInv P d
  | .choice _ b f => TInv P b ∧ TInv P f ∧ TEq (toksOf b) (toksOf f)
  | .ab d => TInv P d
  | .fill ds => TInvL P ds
  | .ann (.tok t) d =>
      if t == Pr.tComment then True else if t == Pr.tStr then Plain d = true else TInv P d
  | .ann _ d => TInv P d
  | .align d => TInv P d
  | .pstr sp => P sp
def TInvL (P : StrSpec → Prop) : List Doc → Prop
  | [] => True
  | d :: r => TInv P d ∧ TInvL P r
end

theorem tinvL_iff (P) : ∀ ds, TInvL P ds ↔ ∀ d ∈ ds, TInv P d :=
  forall_iff_of trivial fun _ _ => .rfl

end Tok
end PP
