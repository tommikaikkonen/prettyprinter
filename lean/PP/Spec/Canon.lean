/-
`canonW ctx v tr`: the code tokens `pformat` must print for `v`, as a function of the value, of `depth` / `max_seq_len` /
`sort_dict_keys` and of the trailing comment only: width, ribbon and indent do not occur in it.  One case is not explicit: for a
`timedelta` it is the tokens of the printer's own document at indent 0.  The pieces follow prettyprinter.py: `seqCanon` is
`pretty_bracketable_iterable`, `dictCanon` is `pretty_dict`, `callToks` is `build_fncall`.
-/
import PP.Model.Values
import PP.Spec.DocTokens
import PP.Spec.Companions
namespace PP
namespace Tok
open Doc PyStr Pr

def cd (s : Str) : List CT := if isBlank s then [] else [.code s]
theorem cd_of_not_blank (s : Str) (h : isBlank s = false) : cd s = [.code s] := by simp [cd, h]

/-! `P` is the test of a class of tokens (`isNumTok`, `isNameTok`, `okName`, `C07.isDigits`, …); the empty text and a text that
begins with a space lie outside every class, by evaluation. -/

theorem ne_of_class (P : Str → Bool) {s t : Str} (hs : P s = true) (ht : P t = false) : s ≠ t :=
  fun e => by rw [e, ht] at hs; cases hs

theorem not_blank_of_class (P : Str → Bool) {s : Str} (hs : P s = true) (h0 : P [] = false := by rfl)
    (h32 : ∀ l, P (32 :: l) = false := by intro _; rfl) : isBlank s = false := by
  cases s with
  | nil => rw [h0] at hs; cases hs
  | cons c l =>
    have : c ≠ 32 := fun e => by rw [e, h32] at hs; cases hs
    simp [isBlank, this]

def tkToks (t : Nat) (s : Str) : List CT :=
  if t == tComment then [] else if t == tStr then [.lit (decodeLit s)] else cd s

def COMMA_T : CT := .code [44]
def COLON_T : CT := .code [58]
def LP : CT := .code [40]
def RP : CT := .code [41]
def ELL : CT := .code [46, 46, 46]
def EQ_T : CT := .code [61]

/-- items separated by commas, with an optional dangling comma -/
def seqToks : List (List CT) → Bool → List CT
  | [], dangle => if dangle then [COMMA_T] else []
  | [t], dangle => t ++ (if dangle then [COMMA_T] else [])
  | t :: t2 :: r, dangle => t ++ [COMMA_T] ++ seqToks (t2 :: r) dangle

/-- `, t1 , t2 … , tn` followed by an optional comma -/
def tailToks (els : List (List CT)) (tc : Bool) : List CT :=
  els.flatMap (fun t => COMMA_T :: t) ++ (if tc then [COMMA_T] else [])

/-- code points of a `str` are below 0x110000, bytes below 256 -/
def wfStr (isBytes : Bool) (s : PS) : Prop := ∀ c ∈ s, c.cp < (if isBytes then 256 else 1114112)

/-- the predicate a string contextual has to satisfy: a well-formed value -/
def StrOk (sp : StrSpec) : Prop := wfStr sp.isBytes sp.s

def callToks (fn : QualName) (args : List (List CT)) : List CT := cd fn.2 ++ [LP] ++ seqToks args false ++ [RP]
def ellToks (fn : QualName) : List CT := cd fn.2 ++ [LP, ELL, RP]
def emptyCallToks (ctx : Ctx) (fn : QualName) : List CT :=
  if ctx.depthLeft.any (· == 0) then ellToks fn else cd fn.2 ++ [LP, RP]
def wrapToks (cls : Option QualName) (inner : List CT) : List CT :=
  match cls with | none => inner | some q => callToks q [inner]
def bracketToks (kind : Nat) : CT × CT :=
  if kind == 0 then (.code [91], .code [93]) else if kind == 1 then (LP, RP) else (.code [123], .code [125])

/-- a context without depth limit, max_seq_len and key sorting -/
def Free (ctx : Ctx) : Prop := ctx.depthLeft = none ∧ ctx.maxSeqLen = none ∧ ctx.sortKeys = false

def seqCanon (ctx : Ctx) (kind : Nat) (cls : Option QualName) (len : Nat) (els : List (List CT)) (tr : Option PS) : List CT :=
  let fn := cls.getD (builtin (seqName kind))
  let (l, r) := bracketToks kind
  let tr := withTruncation len ctx.maxSeqLen tr
  if len == 0 then
    if kind != 2 && cls.isNone then [l, r] else emptyCallToks ctx fn
  else if ctx.depthZero then
    if kind != 2 then
      let literal := [l, ELL, r]
      if cls.isNone then literal else callToks fn [literal]
    else ellToks fn
  else
    let els := if len == 1 then els else takeOpt ctx.maxSeqLen els
    let dangle := kind == 1 && len == 1
    -- a trailing comment counts as one more, empty, element: `seqToks` then puts the comma that precedes the comment
    let (els, dangle) := match tr with
      | some _ => (els ++ [[]], false)
      | none => (els, dangle)
    let literal := [l] ++ seqToks els dangle ++ [r]
    if cls.isNone then literal else callToks fn [literal]

theorem seqCanon_nil (ctx : Ctx) (kind : Nat) (cls : Option QualName) (tr : Option PS) :
    seqCanon ctx kind cls 0 [] tr =
      if kind != 2 && cls.isNone then [(bracketToks kind).1, (bracketToks kind).2]
      else emptyCallToks ctx (cls.getD (builtin (seqName kind))) := rfl

def dictPairToks : List (PyVal × List CT × List CT) → List CT
  | [] => []
  | [(_, kt, vt)] => kt ++ [COLON_T] ++ vt
  | (_, kt, vt) :: p2 :: r => kt ++ [COLON_T] ++ vt ++ [COMMA_T] ++ dictPairToks (p2 :: r)

def dictCanon (ctx : Ctx) (cls : Option QualName) (pairs : List (PyVal × List CT × List CT)) (tr : Option PS) : List CT :=
  let fn := cls.getD (builtin nmDict)
  if ctx.depthZero then
    let literal := [CT.code [123], ELL, .code [125]]
    if cls.isNone then literal else callToks fn [literal]
  else
    let tr := withTruncation pairs.length ctx.maxSeqLen tr
    let ps := takeOpt ctx.maxSeqLen (if ctx.sortKeys then sortK pairs else pairs)
    let doc := [CT.code [123]] ++ dictPairToks ps ++ [.code [125]]
    if cls.isNone then doc
    -- an empty instance of a subclass is `MyDict()`, but `MyDict({ # comment })` with a trailing comment: finding K7
    else if ps.isEmpty && tr.isNone then emptyCallToks ctx fn
    else callToks fn [doc]

def identToks (parts : List (Nat × Str)) : List CT := parts.flatMap fun p => tkToks p.1 p.2

/-- the part of a context that tokens may depend on: depth, max_seq_len, sort_dict_keys (indent and the multi-line string
strategy erased) -/
def _root_.PP.Pr.Ctx.norm (x : Ctx) : Ctx := { x with indent := 0, strategy := 0 }

/-! These two hold by `rfl`, but are not proved by it: as definitional simp lemmas they would rewrite the condition of an `if`
and leave its `Decidable` instance behind, and the two sides of `toksOf … = canonW ctx.norm …` would no longer meet. -/
@[simp] theorem norm_depthLeft (x : Ctx) : x.norm.depthLeft = x.depthLeft := by cases x; rfl
@[simp] theorem norm_depthZero (x : Ctx) : x.norm.depthZero = x.depthZero := by cases x; rfl

@[simp] theorem norm_maxSeqLen (x : Ctx) : x.norm.maxSeqLen = x.maxSeqLen := rfl
@[simp] theorem norm_sortKeys (x : Ctx) : x.norm.sortKeys = x.sortKeys := rfl
@[simp] theorem norm_nested (x : Ctx) : x.nested.norm = x.norm.nested := rfl
@[simp] theorem norm_withStrategy (x : Ctx) (s : Nat) : (x.withStrategy s).norm = x.norm := rfl
@[simp] theorem norm_seqElCtx (x : Ctx) (n : Nat) : (seqElCtx x n).norm = x.norm.nested := rfl
@[simp] theorem withStrategy_depthZero (x : Ctx) (s : Nat) : (x.withStrategy s).depthZero = x.depthZero := rfl
@[simp] theorem withStrategy_depthLeft (x : Ctx) (s : Nat) : (x.withStrategy s).depthLeft = x.depthLeft := rfl
@[simp] theorem withStrategy_indent (x : Ctx) (s : Nat) : (x.withStrategy s).indent = x.indent := rfl
@[simp] theorem nested_indent (x : Ctx) : x.nested.indent = x.indent := rfl
@[simp] theorem nested_maxSeqLen (x : Ctx) : x.nested.maxSeqLen = x.maxSeqLen := rfl
@[simp] theorem nested_sortKeys (x : Ctx) : x.nested.sortKeys = x.sortKeys := rfl

theorem seqCanon_norm (x : Ctx) (kind cls len els tr) : seqCanon x.norm kind cls len els tr = seqCanon x kind cls len els tr := rfl
theorem dictCanon_norm (x : Ctx) (cls pairs tr) : dictCanon x.norm cls pairs tr = dictCanon x cls pairs tr := rfl

mutual
def wfVal : PyVal → Prop
  | .str _ isBytes s => wfStr isBytes s
  | .seq _ _ xs => wfVals xs
  | .frozenset _ xs => wfVals xs
  | .dict _ kvs => wfPairs kvs
  | .call _ args kwargs => wfVals args ∧ wfKws kwargs
  | .path _ posix => wfStr false posix
  | .commented v _ => wfVal v
  | .trailing v _ => wfVal v
  | _ => True
def wfVals : List PyVal → Prop
  | [] => True
  | v :: r => wfVal v ∧ wfVals r
def wfKws : List (Str × PyVal) → Prop
  | [] => True
  | (_, v) :: r => wfVal v ∧ wfKws r
def wfPairs : List (PyVal × PyVal) → Prop
  | [] => True
  | (k, v) :: r => wfVal k ∧ wfVal v ∧ wfPairs r
end

theorem wfVals_iff : ∀ (xs : List PyVal), wfVals xs ↔ ∀ x ∈ xs, wfVal x :=
  forall_iff_of trivial fun _ _ => .rfl

theorem wfKws_iff : ∀ (kws : List (Str × PyVal)), wfKws kws ↔ ∀ p ∈ kws, wfVal p.2 :=
  forall_iff_of trivial fun _ _ => .rfl

theorem wfPairs_iff : ∀ (qs : List (PyVal × PyVal)), wfPairs qs ↔ ∀ q ∈ qs, wfVal q.1 ∧ wfVal q.2 :=
  forall_iff_of trivial fun _ _ => and_assoc.symm

theorem wfVals_map {f : PyVal → PyVal} {xs : List PyVal} (ih : ∀ x ∈ xs, wfVal x → wfVal (f x)) (h : wfVals xs) :
    wfVals (xs.map f) :=
  (wfVals_iff _).mpr <| List.forall_mem_map.mpr fun x hx => ih x hx ((wfVals_iff xs).mp h x hx)

theorem wfKws_map {f : PyVal → PyVal} {kws : List (Str × PyVal)} (ih : ∀ p ∈ kws, wfVal p.2 → wfVal (f p.2)) (h : wfKws kws) :
    wfKws (kws.map fun p => (p.1, f p.2)) :=
  (wfKws_iff _).mpr <| List.forall_mem_map.mpr fun p hp => ih p hp ((wfKws_iff kws).mp h p hp)

theorem wfPairs_map {f : PyVal → PyVal} {kvs : List (PyVal × PyVal)}
    (ih : ∀ p ∈ kvs, (wfVal p.1 → wfVal (f p.1)) ∧ (wfVal p.2 → wfVal (f p.2))) (h : wfPairs kvs) :
    wfPairs (kvs.map fun p => (f p.1, f p.2)) :=
  (wfPairs_iff _).mpr <| List.forall_mem_map.mpr fun p hp =>
    ⟨(ih p hp).1 ((wfPairs_iff kvs).mp h p hp).1, (ih p hp).2 ((wfPairs_iff kvs).mp h p hp).2⟩

/-- str / bytes keys are printed by `pretty_str` directly (no depth check); other keys through pretty_python_value -/
def keyCanon (k : PyVal) (viaPPV : List CT) : List CT :=
  match k with
  | .str cls isBytes s => strCanon { s := s, isBytes := isBytes, cls := cls }
  | _ => viaPPV

def floatName (kind : Nat) : Str := if kind == 1 then [105, 110, 102] else if kind == 2 then [45, 105, 110, 102] else [110, 97, 110]

mutual
def canonW (ctx : Ctx) : PyVal → Option PS → List CT
  | .commented v _, tr => canonW ctx v tr
  | .trailing v t, _ => canonW ctx v (some t)
  | .none, _ => [.code [78, 111, 110, 101]]
  | .ellipsis, _ => [ELL]
  | .bool b, _ => [.code (if b then [84, 114, 117, 101] else [70, 97, 108, 115, 101])]
  | .opaque r, _ => cd r
  | .ident parts, _ => identToks parts
  | .timedelta d s u, _ => toksOf (timedeltaDoc { ctx with indent := 0 } d s u)
  | .path cls posix, _ =>
      callToks cls [if ctx.depthZero then ellToks (builtin nmStr) else [.lit (some (cps posix))]]
  | .int cls _ lit, _ => if ctx.depthZero then ellToks (cls.getD (builtin nmInt)) else wrapToks cls (cd lit)
  | .float cls kind lit _ _, _ =>
      let fn := cls.getD (builtin nmFloat)
      if ctx.depthZero then ellToks fn
      else if kind == 0 then wrapToks cls (cd lit)
      else callToks fn [if ctx.nested.depthZero then ellToks (builtin nmStr) else [.lit (some (floatName kind))]]
  | .str cls isBytes s, _ =>
      if ctx.depthZero then ellToks (cls.getD (builtin (if isBytes then nmBytes else nmStr)))
      else strCanon { s := s, isBytes := isBytes, cls := cls }
  | .frozenset cls xs, _ =>
      let fn := cls.getD (builtin nmFrozenset)
      if ctx.depthLeft.any (· == 0) then ellToks fn
      else if xs.isEmpty then cd fn.2 ++ [LP, RP]
      else callToks fn [seqCanon ctx 0 none xs.length (canonL ctx.nested xs) none]
  | .call f args kwargs, _ =>
      if ctx.depthLeft.any (· == 0) then ellToks f
      else if hugCall args kwargs then callToks f (canonL ctx args)
      else callToks f (canonL ctx.nested args ++ canonKw ctx.nested kwargs)
  | .seq kind cls xs, tr => seqCanon ctx kind cls xs.length (canonL ctx.nested xs) (nonEmpty? tr)
  | .dict cls kvs, tr => dictCanon ctx cls (canonPairs ctx kvs) (nonEmpty? tr)
def canonL (ctx : Ctx) : List PyVal → List (List CT)
  | [] => []
  | v :: r => canonW ctx v none :: canonL ctx r
def canonKw (ctx : Ctx) : List (Str × PyVal) → List (List CT)
  | [] => []
  | (k, v) :: r => (cd k ++ [EQ_T] ++ canonW ctx v none) :: canonKw ctx r
def canonPairs (ctx : Ctx) : List (PyVal × PyVal) → List (PyVal × List CT × List CT)
  | [] => []
  | (k, v) :: r =>
    (k, keyCanon k (canonW ctx.nested k none), canonW ctx.nested v none) :: canonPairs ctx r
end

theorem canonL_eq_map (ctx : Ctx) : ∀ xs, canonL ctx xs = xs.map (canonW ctx · none) :=
  eq_map_of rfl fun _ _ => rfl
theorem canonKw_eq_map (ctx : Ctx) : ∀ kws, canonKw ctx kws = kws.map fun p => cd p.1 ++ [EQ_T] ++ canonW ctx p.2 none :=
  eq_map_of rfl fun _ _ => rfl
theorem canonPairs_eq_map (ctx : Ctx) : ∀ kvs, canonPairs ctx kvs =
    kvs.map fun p => (p.1, keyCanon p.1 (canonW ctx.nested p.1 none), canonW ctx.nested p.2 none) :=
  eq_map_of rfl fun _ _ => rfl

end Tok
end PP
