/-
Spec side of C02: Python's decoding of the body of a (non-raw) string / bytes literal quoted with `q` — the fragment
of the language reference that repr can produce plus the other simple escapes.  `none` = not a valid literal body
(an unescaped quote or a raw newline inside, a malformed escape).
-/
import PP.Model.PyStr
namespace PP
namespace PyStr

def hexVal? (c : Nat) : Option Nat :=
  if 48 ≤ c && c ≤ 57 then some (c - 48)
  else if 97 ≤ c && c ≤ 102 then some (c - 87)
  else if 65 ≤ c && c ≤ 70 then some (c - 55)
  else none

/-- read exactly `n` hex digits -/
def parseHex : Nat → Nat → Str → Option (Nat × Str)
  | 0, acc, s => some (acc, s)
  | n + 1, acc, c :: r => match hexVal? c with
    | some d => parseHex n (acc * 16 + d) r
    | none => none
  | _ + 1, _, [] => none

theorem parseHex_length : ∀ (n acc : Nat) (s : Str) (v : Nat) (r : Str), parseHex n acc s = some (v, r) → r.length ≤ s.length := by
  intro n acc s v r h
  fun_induction parseHex n acc s with
  | case1 => cases h; exact Nat.le_refl _
  | case2 n acc c t d _ ih => exact Nat.le_succ_of_le (ih h)
  | case3 => cases h
  | case4 => cases h

/-- value of exactly `w` hex digits at the front of `s` -/
def hexAt (w : Nat) (s : Str) : Option Nat :=
  match parseHex w 0 (s.take w) with
  | some (v, []) => if (s.take w).length = w then some v else none
  | _ => none

def unescape (q : Nat) (s : Str) : Option (List Nat) :=
  match s with
  | [] => some []
  | c :: r =>
    if c == q || c == 10 then none
    else if c == BS then
      match r with
      | [] => none
      | e :: r' =>
        if e == BS || e == SQ || e == DQ then (unescape q r').map (e :: ·)
        else if e == 110 then (unescape q r').map (10 :: ·)
        else if e == 114 then (unescape q r').map (13 :: ·)
        else if e == 116 then (unescape q r').map (9 :: ·)
        else if e == 120 then (match hexAt 2 r' with | some v => (unescape q (r'.drop 2)).map (v :: ·) | none => none)
        else if e == 117 then (match hexAt 4 r' with | some v => (unescape q (r'.drop 4)).map (v :: ·) | none => none)
        else if e == 85 then (match hexAt 8 r' with | some v => (unescape q (r'.drop 8)).map (v :: ·) | none => none)
        else none
    else (unescape q r).map (c :: ·)
termination_by s.length
decreasing_by
  all_goals simp_wf
  all_goals (try simp only [List.length_drop])
  all_goals omega

end PyStr
end PP
