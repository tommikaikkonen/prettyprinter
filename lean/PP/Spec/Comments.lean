/-
Values without their comments (C09).  `dropComments` removes the `comment()` wrappers and keeps the `trailing_comment()` ones: the
first kind does not change the code tokens of the output, the second adds a comma before the closing bracket; `C09.bare` removes
both.  `keyOk` / `keysPlain`: under `sort_dict_keys` a comment may sit inside a dict key only where the sort key
(`_without_comments` of prettyprinter.py after fix F22) ignores it.
-/
import PP.Model.Values
import PP.Spec.Companions
namespace PP
namespace Tok
open Doc PyStr Pr

mutual
def dropComments : PyVal → PyVal
  | .commented v _ => dropComments v
  | .trailing v t => .trailing (dropComments v) t
  | .seq k c xs => .seq k c (dropL xs)
  | .frozenset c xs => .frozenset c (dropL xs)
  | .dict c kvs => .dict c (dropP kvs)
  | .call f args kwargs => .call f (dropL args) (dropK kwargs)
  | v => v
def dropL : List PyVal → List PyVal
  | [] => []
  | v :: r => dropComments v :: dropL r
def dropK : List (Str × PyVal) → List (Str × PyVal)
  | [] => []
  | (k, v) :: r => (k, dropComments v) :: dropK r
def dropP : List (PyVal × PyVal) → List (PyVal × PyVal)
  | [] => []
  | (k, v) :: r => (dropComments k, dropComments v) :: dropP r
end

theorem dropL_eq_map : ∀ xs, dropL xs = xs.map dropComments :=
  eq_map_of rfl fun _ _ => rfl
theorem dropK_eq_map : ∀ kws, dropK kws = kws.map fun p => (p.1, dropComments p.2) :=
  eq_map_of rfl fun _ _ => rfl
theorem dropP_eq_map : ∀ kvs, dropP kvs = kvs.map fun p => (dropComments p.1, dropComments p.2) :=
  eq_map_of rfl fun _ _ => rfl

mutual
/-- no comment wrapper at all inside the value -/
def commentFree : PyVal → Bool
  | .commented _ _ => false
  | .trailing _ _ => false
  | .seq _ _ xs => commentFreeL xs
  | .frozenset _ xs => commentFreeL xs
  | .dict _ kvs => commentFreeP kvs
  | .call _ args kwargs => commentFreeL args && commentFreeK kwargs
  | _ => true
def commentFreeL : List PyVal → Bool
  | [] => true
  | v :: r => commentFree v && commentFreeL r
def commentFreeK : List (Str × PyVal) → Bool
  | [] => true
  | (_, v) :: r => commentFree v && commentFreeK r
def commentFreeP : List (PyVal × PyVal) → Bool
  | [] => true
  | (k, v) :: r => commentFree k && commentFree v && commentFreeP r
end

theorem commentFreeL_iff : ∀ (xs : List PyVal), commentFreeL xs = true ↔ ∀ x ∈ xs, commentFree x = true :=
  all_iff_of rfl fun _ _ => rfl
theorem commentFreeK_iff : ∀ (kws : List (Str × PyVal)), commentFreeK kws = true ↔ ∀ p ∈ kws, commentFree p.2 = true :=
  all_iff_of rfl fun _ _ => rfl
theorem commentFreeP_iff : ∀ (kvs : List (PyVal × PyVal)),
    commentFreeP kvs = true ↔ ∀ p ∈ kvs, commentFree p.1 = true ∧ commentFree p.2 = true :=
  all_iff_of₂ rfl fun _ _ => rfl

mutual
/-- a dict key whose comments sit where the sort key ignores them: around the key itself and, for a tuple key, around
(or, again for tuples, inside) its elements -/
def keyOk : PyVal → Bool
  | .commented v _ => keyOk v
  | .trailing v _ => keyOk v
  | .seq kind _ xs => if kind == 1 then keyOkL xs else commentFreeL xs
  | .frozenset _ xs => commentFreeL xs
  | .dict _ kvs => commentFreeP kvs
  | .call _ args kwargs => commentFreeL args && commentFreeK kwargs
  | _ => true
def keyOkL : List PyVal → Bool
  | [] => true
  | v :: r => keyOk v && keyOkL r
end

theorem keyOkL_iff : ∀ (xs : List PyVal), keyOkL xs = true ↔ ∀ x ∈ xs, keyOk x = true :=
  all_iff_of rfl fun _ _ => rfl

mutual
/-- every dict key, at every level, carries comments only where the sort key ignores them (`keyOk`) -/
def keysPlain : PyVal → Bool
  | .commented v _ => keysPlain v
  | .trailing v _ => keysPlain v
  | .seq _ _ xs => keysPlainL xs
  | .frozenset _ xs => keysPlainL xs
  | .dict _ kvs => keysPlainP kvs
  | .call _ args kwargs => keysPlainL args && keysPlainK kwargs
  | _ => true
def keysPlainL : List PyVal → Bool
  | [] => true
  | v :: r => keysPlain v && keysPlainL r
def keysPlainK : List (Str × PyVal) → Bool
  | [] => true
  | (_, v) :: r => keysPlain v && keysPlainK r
def keysPlainP : List (PyVal × PyVal) → Bool
  | [] => true
  | (k, v) :: r => keyOk k && keysPlain v && keysPlainP r
end

theorem keysPlainL_iff : ∀ (xs : List PyVal), keysPlainL xs = true ↔ ∀ x ∈ xs, keysPlain x = true :=
  all_iff_of rfl fun _ _ => rfl
theorem keysPlainK_iff : ∀ (kws : List (Str × PyVal)), keysPlainK kws = true ↔ ∀ p ∈ kws, keysPlain p.2 = true :=
  all_iff_of rfl fun _ _ => rfl
theorem keysPlainP_iff : ∀ (kvs : List (PyVal × PyVal)), keysPlainP kvs = true ↔ ∀ p ∈ kvs, keyOk p.1 = true ∧ keysPlain p.2 = true :=
  all_iff_of₂ rfl fun _ _ => rfl

end Tok
end PP

namespace PP.C09
open PP Doc Pr Tok

mutual
/-- the value with every `comment()` and `trailing_comment()` wrapper removed, at every depth -/
def bare : PyVal → PyVal
  | .commented v _ => bare v
  | .trailing v _ => bare v
  | .seq k c xs => .seq k c (bareL xs)
  | .frozenset c xs => .frozenset c (bareL xs)
  | .dict c kvs => .dict c (bareP kvs)
  | .call f args kwargs => .call f (bareL args) (bareK kwargs)
  | v => v
def bareL : List PyVal → List PyVal
  | [] => []
  | v :: r => bare v :: bareL r
def bareK : List (Str × PyVal) → List (Str × PyVal)
  | [] => []
  | (k, v) :: r => (k, bare v) :: bareK r
def bareP : List (PyVal × PyVal) → List (PyVal × PyVal)
  | [] => []
  | (k, v) :: r => (bare k, bare v) :: bareP r
end

theorem bareL_eq_map : ∀ xs, bareL xs = xs.map bare :=
  eq_map_of rfl fun _ _ => rfl
theorem bareK_eq_map : ∀ kws, bareK kws = kws.map fun p => (p.1, bare p.2) :=
  eq_map_of rfl fun _ _ => rfl
theorem bareP_eq_map : ∀ kvs, bareP kvs = kvs.map fun p => (bare p.1, bare p.2) :=
  eq_map_of rfl fun _ _ => rfl

end PP.C09
