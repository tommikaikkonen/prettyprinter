/-
A function on values recurses through three kinds of lists (elements, keyword arguments, dict entries), and structural recursion
wants each written out as a function of its own (`canonL`, `canonKw`, `canonPairs` beside `canonW`).  Such a companion is the
`List.map` or `List.all` of the function on values (for the fuel `need`, a maximum over it); these lemmas read that off its two
defining equations.
-/
namespace PP

theorem eq_map_of {α β} {fL : List α → List β} {f : α → β} (nil : fL [] = []) (cons : ∀ x r, fL (x :: r) = f x :: fL r) :
    ∀ xs, fL xs = xs.map f
  | [] => nil
  | x :: r => (cons x r).trans (congrArg _ (eq_map_of nil cons r))

theorem forall_iff_of {α} {pL : List α → Prop} {p : α → Prop} (nil : pL []) (cons : ∀ x r, pL (x :: r) ↔ p x ∧ pL r) :
    ∀ xs, pL xs ↔ ∀ x ∈ xs, p x
  | [] => iff_of_true nil nofun
  | x :: r => by rw [cons, forall_iff_of nil cons r, List.forall_mem_cons]

theorem all_iff_of {α} {pL : List α → Bool} {p : α → Bool} (nil : pL [] = true) (cons : ∀ x r, pL (x :: r) = (p x && pL r)) :
    ∀ xs, pL xs = true ↔ ∀ x ∈ xs, p x = true :=
  forall_iff_of (pL := (pL · = true)) nil fun x r => by rw [cons, Bool.and_eq_true]

theorem all_iff_of₂ {α} {pL : List α → Bool} {p q : α → Bool} (nil : pL [] = true)
    (cons : ∀ x r, pL (x :: r) = (p x && q x && pL r)) : ∀ xs, pL xs = true ↔ ∀ x ∈ xs, p x = true ∧ q x = true :=
  fun xs => (all_iff_of (p := fun x => p x && q x) nil cons xs).trans (by simp only [Bool.and_eq_true])

theorem le_of_max_eq {α : Type} {mL : List α → Nat} {m : α → Nat} (cons : ∀ x r, mL (x :: r) = max (m x) (mL r)) :
    ∀ {xs : List α} {x : α}, x ∈ xs → m x ≤ mL xs
  | y :: r, x, h => by
    rw [cons]
    rcases List.mem_cons.mp h with rfl | h
    · exact Nat.le_max_left ..
    · exact Nat.le_trans (le_of_max_eq cons h) (Nat.le_max_right ..)

end PP
