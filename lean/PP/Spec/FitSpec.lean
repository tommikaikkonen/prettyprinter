/-
The fitting predicates of layout.py (C05 / C06) in the terms the properties use.  `fitsE` is `fast_fitting_predicate` with
indentation, nest amounts and annotation pops erased.  `scanE` is what it measures, with no budget running down: the width of the
text from the top of the stack to the first line break, `none` if a forced break (`always_break`, a string contextual) comes first;
`align d` is read as the normalised `d`.  `demands` is what `smart_fitting_predicate` asks for: one pair (budget, characters) for
the current line and one for every following line reached through a line break indented more than `mn`.
-/
import PP.Model.Layout
namespace PP
open Doc

abbrev Pair := Mode × Doc
def pSize : List Pair → Nat
  | [] => 0
  | (_, d) :: r => d.size + pSize r
def pushAllP (m : Mode) (ds : List Doc) (stk : List Pair) : List Pair :=
  match ds with
  | [] => stk
  | d :: r => (m, d) :: pushAllP m r stk
@[simp] theorem pSize_pushAllP (m ds stk) : pSize (pushAllP m ds stk) = Doc.sizes ds + pSize stk := by
  induction ds with
  | nil => simp [pushAllP, Doc.sizes]
  | cons d r ih => simp [pushAllP, Doc.sizes, pSize, ih]; omega

/-- the fast predicate with indentation, nest amounts and annotation pops erased; `align d` is read as the normalised `d`,
a string contextual makes it fail -/
def fitsE (left : Int) (stk : List Pair) : Bool :=
  if left < 0 then false else
  match stk with
  | [] => true
  | (m, d) :: r =>
      match d with
      | .nil => fitsE left r
      | .text s => fitsE (left - s.length) r
      | .cat ds => fitsE left (pushAllP m ds r)
      | .ann _ d => fitsE left ((m, d) :: r)
      | .fill ds => fitsE left (pushAllP m ds r)
      | .nest _ d => fitsE left ((m, d) :: r)
      | .ab _ => false
      | .hardline => true
      | .choice l b f => fitsE left ((m, pick m l b f) :: r)
      | .group d => fitsE left ((.flat, d) :: r)
      | .align d => fitsE left ((m, d.normalize) :: r)
      | .pstr _ => false
termination_by pSize stk
decreasing_by
  all_goals simp_wf
  all_goals simp only [pSize, Doc.size, sizesF_eq]
  any_goals omega
  · exact Nat.add_lt_add_right (size_pick ..) _
  · have := Doc.size_normalize ‹Doc›; omega

def strip : List Triple → List Pair
  | [] => []
  | (_, m, .doc d) :: r => (m, d) :: strip r
  | (_, _, .pop _) :: r => strip r
@[simp] theorem strip_nil : strip [] = [] := rfl
@[simp] theorem strip_doc (i m d r) : strip ((i, m, .doc d) :: r) = (m, d) :: strip r := rfl
@[simp] theorem strip_pop (i m a r) : strip ((i, m, .pop a) :: r) = strip r := rfl

def scanE (stk : List Pair) : Option Nat :=
  match stk with
  | [] => some 0
  | (m, d) :: r =>
      match d with
      | .nil => scanE r
      | .text s => (scanE r).map (s.length + ·)
      | .cat ds => scanE (pushAllP m ds r)
      | .ann _ d => scanE ((m, d) :: r)
      | .fill ds => scanE (pushAllP m ds r)
      | .nest _ d => scanE ((m, d) :: r)
      | .ab _ => none
      | .hardline => some 0
      | .choice l b f => scanE ((m, pick m l b f) :: r)
      | .group d => scanE ((.flat, d) :: r)
      | .align d => scanE ((m, d.normalize) :: r)
      | .pstr _ => none
termination_by pSize stk
decreasing_by
  all_goals simp_wf
  all_goals simp only [pSize, Doc.size, sizesF_eq]
  any_goals omega
  · exact Nat.add_lt_add_right (size_pick ..) _
  · have := Doc.size_normalize ‹Doc›; omega

/-- the demands of the smart look-ahead: `(budget, characters)` per line it looks at -/
def demands (cfg : Cfg) (mn : Int) (budget : Int) (acc : Nat) (stk : List Triple) : Option (List (Int × Nat)) :=
  match stk with
  | [] => some [(budget, acc)]
  | (i, m, it) :: r =>
    match it with
    | .pop _ => demands cfg mn budget acc r
    | .doc d =>
      match d with
      | .nil => demands cfg mn budget acc r
      | .text s => demands cfg mn budget (acc + s.length) r
      | .cat ds => demands cfg mn budget acc (pushAll i m ds r)
      | .ann _ d => demands cfg mn budget acc ((i, m, .doc d) :: r)
      | .fill ds => demands cfg mn budget acc (pushAll i m ds r)
      | .nest j d => demands cfg mn budget acc ((i + j, m, .doc d) :: r)
      | .ab _ => none
      | .hardline =>
          if i > mn then (demands cfg mn (cfg.w - i) 0 r).map ((budget, acc) :: ·) else some [(budget, acc)]
      | .choice l b f => demands cfg mn budget acc ((i, m, .doc (pick m l b f)) :: r)
      | .group d => demands cfg mn budget acc ((i, .flat, .doc d) :: r)
      | .align _ => none
      | .pstr _ => none
termination_by stkSize stk
decreasing_by
  all_goals simp_wf
  all_goals simp only [↓stkSize_pick, stkSize, Item.size, Doc.size, sizesF_eq]
  all_goals omega

def Met (obs : List (Int × Nat)) : Prop := ∀ p ∈ obs, (p.2 : Int) ≤ p.1

theorem met_cons {b : Int} {n : Nat} {rest : List (Int × Nat)} : Met ((b, n) :: rest) ↔ (n : Int) ≤ b ∧ Met rest :=
  List.forall_mem_cons

/-- width of the text emitted before the first line break -/
def firstLine : List SDoc → Int
  | [] => 0
  | .text s :: r => s.length + firstLine r
  | .line _ :: _ => 0
  | .push _ :: r => firstLine r
  | .pop _ :: r => firstLine r

end PP
