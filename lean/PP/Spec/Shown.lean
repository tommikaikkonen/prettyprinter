/-
`shown ctx v`: the value a reader of the output sees when `v` is printed with `depth`, `max_seq_len` and `sort_dict_keys` as in
`ctx`: dict entries sorted, every container cut to its first N elements and given the truncation comment iff it was longer, every
node at the depth cut replaced by the placeholder of its type; None / bool / Ellipsis have no depth test (K2), str / bytes keys
are printed at the dict's own level (K5).  `noTd` (no timedelta inside) is what the theorems ask for under a depth limit.
-/
import PP.Model.Values
import PP.Spec.Companions
namespace PP
namespace Tok
open Doc PyStr Pr

/-- placeholder printed as `name(...)` -/
def phCall (fn : QualName) : PyVal := .ident [(tFn, fn.2), (tPunct, [40]), (tPunct, [46, 46, 46]), (tPunct, [41])]
/-- placeholder printed as `[...]`, `(...)`, `{...}` -/
def phLit (kind : Nat) : PyVal :=
  .ident [(tPunct, if kind == 0 then [91] else if kind == 1 then [40] else [123]), (tPunct, [46, 46, 46]),
          (tPunct, if kind == 0 then [93] else if kind == 1 then [41] else [125])]

/-- the unlimited, unsorted context -/
def _root_.PP.Pr.Ctx.free (x : Ctx) : Ctx := { x with depthLeft := none, maxSeqLen := none, sortKeys := false }

@[simp] theorem free_depthZero (x : Ctx) : x.free.depthZero = false := rfl
@[simp] theorem free_depthLeft (x : Ctx) : x.free.depthLeft = none := rfl
@[simp] theorem free_maxSeqLen (x : Ctx) : x.free.maxSeqLen = none := rfl
@[simp] theorem free_sortKeys (x : Ctx) : x.free.sortKeys = false := rfl
@[simp] theorem free_nested (x : Ctx) : x.nested.free = x.free.nested := rfl
@[simp] theorem free_nested_eq (x : Ctx) : x.free.nested = x.free := rfl

/-- str / bytes keys are printed as they are (no depth test, finding K5); other keys through the nested context -/
def shownKey (k : PyVal) (viaShown : PyVal) : PyVal :=
  match k with
  | .str cls isBytes s => .str cls isBytes s
  | _ => viaShown

/-- cut a list of shown elements to the limit and mark it with the truncation comment when it was longer -/
def cutSeq (ctx : Ctx) (kind : Nat) (cls : Option QualName) (len : Nat) (ys : List PyVal) : PyVal :=
  match withTruncation len ctx.maxSeqLen none with
  | some t => .trailing (.seq kind cls (if len == 1 then ys else takeOpt ctx.maxSeqLen ys)) t
  | none => .seq kind cls ys

/-- the entries a dict shows, given its shown pairs: in sorted order under `sort_dict_keys`, and the first `max_seq_len` of them -/
def shownEntries (ctx : Ctx) (qs : List (PyVal × PyVal × PyVal)) : List (PyVal × PyVal) :=
  (takeOpt ctx.maxSeqLen (if ctx.sortKeys then sortK qs else qs)).map (·.2)

/-- a dict above the depth cut, given its shown pairs: marked like `cutSeq` when entries were dropped -/
def cutDict (ctx : Ctx) (cls : Option QualName) (len : Nat) (qs : List (PyVal × PyVal × PyVal)) : PyVal :=
  match withTruncation len ctx.maxSeqLen none with
  | some t => .trailing (.dict cls (shownEntries ctx qs)) t
  | none => .dict cls (shownEntries ctx qs)

mutual
def shown (ctx : Ctx) : PyVal → PyVal
  | .commented v t => .commented (shown ctx v) t
  | .trailing v t => .trailing (shown ctx v) t
  | .none => .none
  | .ellipsis => .ellipsis
  | .bool b => .bool b
  | .opaque r => .opaque r
  | .ident parts => .ident parts
  | .timedelta d s u => .timedelta d s u
  | .path cls posix => if ctx.depthZero then .call cls [phCall (builtin nmStr)] [] else .path cls posix
  | .int cls val lit => if ctx.depthZero then phCall (cls.getD (builtin nmInt)) else .int cls val lit
  | .float cls kind lit n d =>
      if ctx.depthZero then phCall (cls.getD (builtin nmFloat))
      else if kind == 0 then .float cls kind lit n d
      else if ctx.nested.depthZero then .call (cls.getD (builtin nmFloat)) [phCall (builtin nmStr)] []
      else .float cls kind lit n d
  | .str cls isBytes s =>
      if ctx.depthZero then phCall (cls.getD (builtin (if isBytes then nmBytes else nmStr))) else .str cls isBytes s
  | .frozenset cls xs =>
      let fn := cls.getD (builtin nmFrozenset)
      if ctx.depthLeft.any (· == 0) then phCall fn
      else match withTruncation xs.length ctx.maxSeqLen none with
        | some t => .call fn [.trailing (.seq 0 none (if xs.length == 1 then shownL ctx.nested xs else takeOpt ctx.maxSeqLen (shownL ctx.nested xs))) t] []
        | none => .frozenset cls (shownL ctx.nested xs)
  | .call f args kwargs =>
      if ctx.depthLeft.any (· == 0) then phCall f
      else if hugCall args kwargs then .call f (shownL ctx args) []
      else .call f (shownL ctx.nested args) (shownKw ctx.nested kwargs)
  | .seq kind cls xs =>
      let fn := cls.getD (builtin (seqName kind))
      if xs.length == 0 then
        (if kind != 2 && cls.isNone then .seq kind cls [] else if ctx.depthLeft.any (· == 0) then phCall fn else .seq kind cls [])
      else if ctx.depthZero then
        (if kind != 2 then (if cls.isNone then phLit kind else .call fn [phLit kind] []) else phCall fn)
      else cutSeq ctx kind cls xs.length (shownL ctx.nested xs)
  | .dict cls kvs =>
      let fn := cls.getD (builtin nmDict)
      if ctx.depthZero then (if cls.isNone then phLit 2 else .call fn [phLit 2] [])
      else
        let ps := shownPairs ctx kvs
        let ps := takeOpt ctx.maxSeqLen (if ctx.sortKeys then sortK ps else ps)
        match withTruncation kvs.length ctx.maxSeqLen none with
        | some t => .trailing (.dict cls (ps.map (·.2))) t
        | none => .dict cls (ps.map (·.2))
def shownL (ctx : Ctx) : List PyVal → List PyVal
  | [] => []
  | v :: r => shown ctx v :: shownL ctx r
def shownKw (ctx : Ctx) : List (Str × PyVal) → List (Str × PyVal)
  | [] => []
  | (k, v) :: r => (k, shown ctx v) :: shownKw ctx r
/-- original key (for sorting), shown key, shown value -/
def shownPairs (ctx : Ctx) : List (PyVal × PyVal) → List (PyVal × PyVal × PyVal)
  | [] => []
  | (k, v) :: r =>
    (k, shownKey k (shown ctx.nested k), shown ctx.nested v) :: shownPairs ctx r
end

theorem shownL_eq_map (ctx : Ctx) : ∀ xs, shownL ctx xs = xs.map (shown ctx) :=
  eq_map_of rfl fun _ _ => rfl
theorem shownKw_eq_map (ctx : Ctx) : ∀ kws, shownKw ctx kws = kws.map fun p => (p.1, shown ctx p.2) :=
  eq_map_of rfl fun _ _ => rfl
theorem shownPairs_eq_map (ctx : Ctx) : ∀ kvs, shownPairs ctx kvs =
    kvs.map fun p => (p.1, shownKey p.1 (shown ctx.nested p.1), shown ctx.nested p.2) :=
  eq_map_of rfl fun _ _ => rfl

mutual
def noTd : PyVal → Bool
  | .timedelta _ _ _ => false
  | .seq _ _ xs => noTdL xs
  | .frozenset _ xs => noTdL xs
  | .dict _ kvs => noTdP kvs
  | .call _ args kwargs => noTdL args && noTdK kwargs
  | .commented v _ => noTd v
  | .trailing v _ => noTd v
  | _ => true
def noTdL : List PyVal → Bool
  | [] => true
  | v :: r => noTd v && noTdL r
def noTdK : List (Str × PyVal) → Bool
  | [] => true
  | (_, v) :: r => noTd v && noTdK r
def noTdP : List (PyVal × PyVal) → Bool
  | [] => true
  | (k, v) :: r => noTd k && noTd v && noTdP r
end

theorem noTdL_iff : ∀ xs, noTdL xs = true ↔ ∀ x ∈ xs, noTd x = true :=
  all_iff_of rfl fun _ _ => rfl
theorem noTdK_iff : ∀ kws, noTdK kws = true ↔ ∀ p ∈ kws, noTd p.2 = true :=
  all_iff_of rfl fun _ _ => rfl
theorem noTdP_iff : ∀ kvs, noTdP kvs = true ↔ ∀ p ∈ kvs, noTd p.1 = true ∧ noTd p.2 = true :=
  all_iff_of₂ rfl fun _ _ => rfl

-- nesting levels the printers descend through in `v`
mutual
def levels : PyVal → Nat
  | .commented v _ => levels v
  | .trailing v _ => levels v
  | .float _ kind _ _ _ => if kind == 0 then 0 else 1
  | .frozenset _ xs => 1 + levelsL xs
  | .seq _ _ xs => 1 + levelsL xs
  | .dict _ kvs => 1 + levelsP kvs
  | .call _ args kwargs => 1 + max (levelsL args) (levelsK kwargs)
  | _ => 0
def levelsL : List PyVal → Nat
  | [] => 0
  | v :: r => max (levels v) (levelsL r)
def levelsK : List (Str × PyVal) → Nat
  | [] => 0
  | (_, v) :: r => max (levels v) (levelsK r)
def levelsP : List (PyVal × PyVal) → Nat
  | [] => 0
  | (k, v) :: r => max (max (levels k) (levels v)) (levelsP r)
end

-- every container in `v` has at most `m` elements
mutual
def lenOk (m : Nat) : PyVal → Bool
  | .commented v _ => lenOk m v
  | .trailing v _ => lenOk m v
  | .frozenset _ xs => decide (xs.length ≤ m) && lenOkL m xs
  | .seq _ _ xs => decide (xs.length ≤ m) && lenOkL m xs
  | .dict _ kvs => decide (kvs.length ≤ m) && lenOkP m kvs
  | .call _ args kwargs => lenOkL m args && lenOkK m kwargs
  | _ => true
def lenOkL (m : Nat) : List PyVal → Bool
  | [] => true
  | v :: r => lenOk m v && lenOkL m r
def lenOkK (m : Nat) : List (Str × PyVal) → Bool
  | [] => true
  | (_, v) :: r => lenOk m v && lenOkK m r
def lenOkP (m : Nat) : List (PyVal × PyVal) → Bool
  | [] => true
  | (k, v) :: r => lenOk m k && lenOk m v && lenOkP m r
end

/-- the same context with the two limits removed (sorting kept) -/
def _root_.PP.Pr.Ctx.unlim (x : Ctx) : Ctx := { x with depthLeft := none, maxSeqLen := none }

@[simp] theorem unlim_nested (x : Ctx) : x.nested.unlim = x.unlim.nested := rfl
@[simp] theorem unlim_depthZero (x : Ctx) : x.unlim.depthZero = false := rfl
@[simp] theorem unlim_depthLeft (x : Ctx) : x.unlim.depthLeft = none := rfl
@[simp] theorem unlim_maxSeqLen (x : Ctx) : x.unlim.maxSeqLen = none := rfl
@[simp] theorem unlim_sortKeys (x : Ctx) : x.unlim.sortKeys = x.sortKeys := rfl

/-- the depth limit of `ctx`, if there is one, exceeds `n`: it does not bite on a value of `n` levels -/
def DepthOk (ctx : Ctx) (n : Nat) : Prop := ctx.depthLeft = none ∨ ∃ d, ctx.depthLeft = some d ∧ n < d
/-- `max_seq_len` of `ctx`, if there is one, satisfies `p`; with `p m = lenOk m v` it does not bite on `v` -/
def LenOk (ctx : Ctx) (p : Nat → Bool) : Prop := ctx.maxSeqLen = none ∨ ∃ m, ctx.maxSeqLen = some m ∧ p m = true

/-- the limits under which the shown value stays readable: max_seq_len ≠ 0 (the property's N ≥ 1) -/
def Trunc (ctx : Ctx) : Prop := ctx.maxSeqLen ≠ some 0

/-- no limit can bite -/
def NoLimits (ctx : Ctx) : Prop := ctx.depthLeft = none ∧ ctx.maxSeqLen = none

end Tok
end PP
