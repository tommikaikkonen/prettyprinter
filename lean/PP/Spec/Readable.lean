/-
Which values the reading theorems speak of (`inRd`; `inC01`: the built-in literal types alone) and what each denotes: `erase v` is
what the printed text of `v` has to denote in the vocabulary of the reader (Spec/Reader.lean): same container type at every
position, same elements in order, same literal texts and string contents, a subclass instance the call of its class on the
underlying value.
-/
import PP.Spec.Reader
import PP.Spec.Canon
namespace PP
namespace Tok
open Doc PyStr Pr

/-- a callable name the reader takes as one: an identifier that is none of the words with a reading of their own -/
def okName (s : Str) : Bool :=
  isNameTok s && !(s == [98]) && !(s == sFloat) && !(s == sSet) && !(s == sFrozenset) && !isKwTok s

/-- a keyword name: any callable name, and `b` (the bytes prefix only when a literal follows it) -/
def kwName (s : Str) : Bool := okName s || s == [98]

mutual
/-- values of the built-in literal types (no subclasses), numbers carrying a numeric literal text -/
def inC01 : PyVal → Bool
  | .commented v _ => inC01 v
  | .trailing v _ => inC01 v
  | .none => true
  | .ellipsis => true
  | .bool _ => true
  | .int cls _ lit => cls.isNone && isNumTok lit
  | .float cls kind lit _ _ => cls.isNone && (kind != 0 || isNumTok lit)
  | .str cls _ _ => cls.isNone
  | .seq kind cls xs => cls.isNone && decide (kind ≤ 2) && inC01L xs
  | .frozenset cls xs => cls.isNone && inC01L xs
  | .dict cls kvs => cls.isNone && inC01P kvs
  | _ => false
def inC01L : List PyVal → Bool
  | [] => true
  | v :: r => inC01 v && inC01L r
def inC01P : List (PyVal × PyVal) → Bool
  | [] => true
  | (k, v) :: r => inC01 k && inC01 v && inC01P r
end

theorem inC01L_iff : ∀ (xs : List PyVal), inC01L xs = true ↔ ∀ x ∈ xs, inC01 x = true :=
  all_iff_of rfl fun _ _ => rfl

theorem inC01P_iff : ∀ (qs : List (PyVal × PyVal)), inC01P qs = true ↔ ∀ q ∈ qs, inC01 q.1 = true ∧ inC01 q.2 = true :=
  all_iff_of₂ rfl fun _ _ => rfl

/-- no subclass, or a subclass whose name reads as a callable -/
def clsOk (cls : Option QualName) : Bool := match cls with | none => true | some q => okName q.2

/-- an empty instance of a dict subclass (under any comments): the one value whose tokens change under a trailing comment (K7) -/
def emptyDictSub : PyVal → Bool
  | .commented v _ => emptyDictSub v
  | .trailing v _ => emptyDictSub v
  | .dict (some _) [] => true
  | _ => false

/-- a name that may be called in a placeholder `name(...)`: an identifier that is no keyword and not the bytes prefix.  Unlike `okName`
it admits `float`, `set`, `frozenset`: none of the forms they have of their own (`float('inf')`, `set()`, `frozenset([..])`) begins `(...` -/
def phName (s : Str) : Bool := isNameTok s && !(s == [98]) && !isKwTok s

/-- a fragment that carries code (neither a comment nor a string literal) -/
def codeTok (t : Nat) : Bool := !(t == tComment) && !(t == tStr)

/-- the identifier-style values and what they denote.  The placeholders a depth limit prints (`Spec/Shown.lean`: `phCall`,
`phLit`): `name(...)` is the call of the name on Ellipsis, `[...]` a list and `{...}` a set holding Ellipsis, `(...)` a
parenthesised Ellipsis.  A name written as one fragment (`int`, `datetime.timezone.utc`: `identifier(...)`) or as a class and an
attribute fragment (`Color` `.RED`: `classattr(cls, name)`) is the value of that name. -/
def identPh (parts : List (Nat × Str)) : Option RVal :=
  match parts with
  | [(t1, nm)] => if codeTok t1 && okName nm then some (.name nm) else none
  | [(t1, nm), (t2, a)] => if codeTok t1 && codeTok t2 && okName nm && isAttrTok a then some (.name (nm ++ a)) else none
  | [(t1, nm), (t2, o), (t3, e), (t4, c)] =>
      if t1 == tFn && t2 == tPunct && t3 == tPunct && t4 == tPunct && o == [40] && e == sEll && c == [41] && phName nm
      then some (.call nm [.kw sEll]) else none
  | [(t1, o), (t2, e), (t3, c)] =>
      if t1 == tPunct && t2 == tPunct && t3 == tPunct && e == sEll then
        (if o == [91] && c == [93] then some (.list [.kw sEll])
         else if o == [40] && c == [41] then some (.kw sEll)
         else if o == [123] && c == [125] then some (.set [.kw sEll]) else none)
      else none
  | _ => none

def strPhParts : List (Nat × Str) := [(tFn, nmStr), (tPunct, [40]), (tPunct, [46, 46, 46]), (tPunct, [41])]

def soleStrPh : List PyVal → Bool
  | [.ident parts] => parts == strPhParts
  | _ => false

/-- `float(str(...))`: how an inf / nan float one level above the depth cut is shown -/
def floatPh (f : QualName) (args : List PyVal) (kwargs : List (Str × PyVal)) : Bool :=
  f.2 == sFloat && kwargs.isEmpty && soleStrPh args

/-- `frozenset(<non-empty list literal>)` written as a call is the shape a truncated frozenset is shown in (`Spec/Shown.lean`);
the reader gives it the reading of a frozenset literal -/
def isListLit : PyVal → Bool
  | .seq 0 none (_ :: _) => true
  | _ => false

def soleListLit : List PyVal → Bool
  | [x] => isListLit (stripComments x)
  | _ => false

def fsetLit (f : QualName) (args : List PyVal) (kwargs : List (Str × PyVal)) : Bool :=
  f.2 == sFrozenset && kwargs.isEmpty && soleListLit args

/-- what `name(items)` denotes: a frozenset for `frozenset([...])`, the call otherwise -/
def callR (lit : Bool) (name : Str) (items : List RVal) : RVal :=
  if lit then (match items with | [.list rs] => .fset rs | _ => .call name items) else .call name items

theorem callR_false (name : Str) (items : List RVal) : callR false name items = .call name items := rfl
theorem callR_list (name : Str) (rs : List RVal) : callR true name [.list rs] = .fset rs := rfl

mutual
/-- the readable fragment: built-in values, instances of their subclasses (C08) and call-style printed objects (C17), nested
in any way, with comments anywhere — except a non-empty trailing comment on an empty dict-subclass instance (K7) -/
def inRd : PyVal → Bool
  | .commented v _ => inRd v
  | .trailing v t => inRd v && (t.isEmpty || !emptyDictSub v)
  | .none => true
  | .ellipsis => true
  | .bool _ => true
  | .int cls _ lit => clsOk cls && isNumTok lit
  | .float cls kind lit _ _ => clsOk cls && (kind != 0 || isNumTok lit)
  | .str cls _ _ => clsOk cls
  | .seq kind cls xs => clsOk cls && decide (kind ≤ 2) && inRdL xs
  | .frozenset cls xs => clsOk cls && inRdL xs
  | .dict cls kvs => clsOk cls && inRdP kvs
  | .call f args kwargs => (okName f.2 || fsetLit f args kwargs || floatPh f args kwargs) && inRdL args && inRdK kwargs
  | .ident parts => (identPh parts).isSome
  | .path cls _ => okName cls.2
  | _ => false
def inRdL : List PyVal → Bool
  | [] => true
  | v :: r => inRd v && inRdL r
def inRdP : List (PyVal × PyVal) → Bool
  | [] => true
  | (k, v) :: r => inRd k && inRd v && inRdP r
def inRdK : List (Str × PyVal) → Bool
  | [] => true
  | (k, v) :: r => kwName k && inRd v && inRdK r
end

theorem inRdL_iff : ∀ (xs : List PyVal), inRdL xs = true ↔ ∀ x ∈ xs, inRd x = true :=
  all_iff_of rfl fun _ _ => rfl

theorem inRdK_iff : ∀ (kws : List (Str × PyVal)), inRdK kws = true ↔ ∀ p ∈ kws, kwName p.1 = true ∧ inRd p.2 = true :=
  all_iff_of₂ rfl fun _ _ => rfl

theorem inRdP_iff : ∀ (qs : List (PyVal × PyVal)), inRdP qs = true ↔ ∀ q ∈ qs, inRd q.1 = true ∧ inRd q.2 = true :=
  all_iff_of₂ rfl fun _ _ => rfl

/-- a subclass instance denotes the call of its class on the underlying value -/
def wrapR (cls : Option QualName) (r : RVal) : RVal := match cls with | none => r | some q => .call q.2 [r]
/-- … and on nothing when the underlying container is empty: `MyList()`, but `MyList([1])` -/
def wrapNE (cls : Option QualName) (empty : Bool) (r : RVal) : RVal :=
  match cls with | none => r | some q => if empty then .call q.2 [] else .call q.2 [r]
theorem wrapNE_false (cls : Option QualName) (r : RVal) : wrapNE cls false r = wrapR cls r := by cases cls <;> rfl
def mkSeq (kind : Nat) (rs : List RVal) : RVal := if kind == 0 then .list rs else if kind == 1 then .tuple rs else .set rs
/-- a float denotes its numeric literal; inf / -inf / nan (`kind ≠ 0`) are printed `float('inf')`, the form the reader takes as one
(`fspecial`), and for a subclass as the call of the class on that string -/
def floatR (cls : Option QualName) (kind : Nat) (lit : Str) : RVal :=
  if kind == 0 then wrapR cls (.num lit)
  else match cls with | none => .fspecial (floatName kind) | some q => .call q.2 [.str false (floatName kind)]
/-- a frozenset is printed as the call of its type on the list of its elements (on nothing when empty): for `frozenset` itself the
reader gives the frozenset, for a subclass the call -/
def fsetR (cls : Option QualName) (empty : Bool) (rs : List RVal) : RVal :=
  match cls with | none => .fset rs | some q => if empty then .call q.2 [] else .call q.2 [.list rs]

mutual
def erase : PyVal → RVal
  | .commented v _ => erase v
  | .trailing v _ => erase v
  | .none => .kw sNone
  | .ellipsis => .kw sEll
  | .bool b => .kw (if b then sTrue else sFalse)
  | .int cls _ lit => wrapR cls (.num lit)
  | .float cls kind lit _ _ => floatR cls kind lit
  | .str cls b s => wrapR cls (.str b (cps s))
  | .seq kind cls xs => wrapNE cls xs.isEmpty (mkSeq kind (eraseL xs))
  | .frozenset cls xs => fsetR cls xs.isEmpty (eraseL xs)
  | .dict cls kvs => wrapNE cls kvs.isEmpty (.dict (eraseP kvs))
  | .call f args kwargs => callR (fsetLit f args kwargs) f.2 (eraseL args ++ eraseK kwargs)
  | .ident parts => (identPh parts).getD (.kw [])
  | .path cls posix => .call cls.2 [.str false (cps posix)]
  | _ => .kw []
def eraseL : List PyVal → List RVal
  | [] => []
  | v :: r => erase v :: eraseL r
def eraseP : List (PyVal × PyVal) → List (RVal × RVal)
  | [] => []
  | (k, v) :: r => (erase k, erase v) :: eraseP r
def eraseK : List (Str × PyVal) → List RVal
  | [] => []
  | (k, v) :: r => .kwarg k (erase v) :: eraseK r
end

theorem eraseL_eq_map : ∀ xs, eraseL xs = xs.map erase :=
  eq_map_of rfl fun _ _ => rfl
theorem eraseK_eq_map : ∀ kws, eraseK kws = kws.map fun p => .kwarg p.1 (erase p.2) :=
  eq_map_of rfl fun _ _ => rfl
theorem eraseP_eq_map : ∀ kvs, eraseP kvs = kvs.map fun p => (erase p.1, erase p.2) :=
  eq_map_of rfl fun _ _ => rfl

mutual
/-- fuel that suffices for the reader on the tokens of a value: each level of nesting uses a bounded number of recursive calls
(one per element for the tail of a sequence, a few for brackets, a class-name call and a placeholder: 10 and 6 are generous), and the
elements of one container are read with the same fuel, hence `max` and not a sum -/
def need : PyVal → Nat
  | .commented v _ => need v
  | .trailing v _ => need v
  | .seq _ _ xs => xs.length + 10 + needL xs
  | .frozenset _ xs => xs.length + 10 + needL xs
  | .dict _ kvs => kvs.length + 10 + needP kvs
  | .call _ args kwargs => args.length + kwargs.length + 6 + max (needL args) (needK kwargs)
  | _ => 6
def needL : List PyVal → Nat
  | [] => 0
  | v :: r => max (need v) (needL r)
def needP : List (PyVal × PyVal) → Nat
  | [] => 0
  | (k, v) :: r => max (max (need k) (need v)) (needP r)
def needK : List (Str × PyVal) → Nat
  | [] => 0
  | (_, v) :: r => max (need v + 1) (needK r)
end

theorem need_le_needL {xs : List PyVal} {x : PyVal} (h : x ∈ xs) : need x ≤ needL xs :=
  le_of_max_eq (mL := needL) (fun _ _ => rfl) h
theorem need_le_needK {kws : List (Str × PyVal)} {p : Str × PyVal} (h : p ∈ kws) : need p.2 + 1 ≤ needK kws :=
  le_of_max_eq (mL := needK) (m := fun p => need p.2 + 1) (fun (_, _) _ => rfl) h
theorem need_le_needP {kvs : List (PyVal × PyVal)} {p : PyVal × PyVal} (h : p ∈ kvs) : max (need p.1) (need p.2) ≤ needP kvs :=
  le_of_max_eq (mL := needP) (m := fun p => max (need p.1) (need p.2)) (fun (_, _) _ => rfl) h

end Tok
end PP
