/-
The documents C05 / C06 speak of: those of a Wadler-style pretty printer as prettyprinter's `doc.py` builds them, without `fill` and
without the contextual document of `pretty_str`.  `Classic0` leaves out `align` as well, whose evaluation depends on the column
the smart predicate has in mind.
-/
import PP.Model.Layout
namespace PP
open Doc

/-- Classic documents (C05): text, concat, nest, group, line / softline (any `flat_choice` whose broken
alternative is `hardline` and whose flat alternative is a text or nil), hardline, always_break, annotate, align
(hence `hang`). -/
inductive Classic : Doc → Prop
  | nil : Classic .nil
  | text : Classic (.text s)
  | hardline : Classic .hardline
  | cat : (∀ d ∈ ds, Classic d) → Classic (.cat ds)
  | nest : Classic d → Classic (.nest j d)
  | group : Classic d → Classic (.group d)
  | line : Classic (.choice l .hardline (.text s))
  | softline : Classic (.choice l .hardline .nil)
  | ab : Classic d → Classic (.ab d)
  | ann : Classic d → Classic (.ann a d)
  | align : Classic d → Classic (.align d)

def ClassicItem : Item → Prop
  | .doc d => Classic d
  | .pop _ => True

namespace Classic
variable {ds : List Doc} {d : Doc} {j : Int} {a : Ann} {sp : StrSpec}
attribute [simp] nil text hardline line softline
@[simp] theorem cat_iff : Classic (.cat ds) ↔ ∀ d ∈ ds, Classic d := ⟨fun | .cat h => h, .cat⟩
@[simp] theorem nest_iff : Classic (.nest j d) ↔ Classic d := ⟨fun | .nest h => h, .nest⟩
@[simp] theorem group_iff : Classic (.group d) ↔ Classic d := ⟨fun | .group h => h, .group⟩
@[simp] theorem ab_iff : Classic (.ab d) ↔ Classic d := ⟨fun | .ab h => h, .ab⟩
@[simp] theorem ann_iff : Classic (.ann a d) ↔ Classic d := ⟨fun | .ann h => h, .ann⟩
@[simp] theorem align_iff : Classic (.align d) ↔ Classic d := ⟨fun | .align h => h, .align⟩
@[simp] theorem not_fill : ¬ Classic (.fill ds) := nofun
@[simp] theorem not_pstr : ¬ Classic (.pstr sp) := nofun
end Classic

def AllClassic (stk : List Triple) : Prop := ∀ t ∈ stk, ClassicItem t.2.2

@[simp] theorem allClassic_nil : AllClassic [] := List.forall_mem_nil _
@[simp] theorem allClassic_doc {i m d r} : AllClassic ((i, m, .doc d) :: r) ↔ Classic d ∧ AllClassic r :=
  List.forall_mem_cons
@[simp] theorem allClassic_pop {i m a r} : AllClassic ((i, m, .pop a) :: r) ↔ AllClassic r :=
  List.forall_mem_cons.trans (and_iff_right trivial)

/-- classic documents without `align` -/
inductive Classic0 : Doc → Prop
  | nil : Classic0 .nil
  | text : Classic0 (.text s)
  | hardline : Classic0 .hardline
  | cat : (∀ d ∈ ds, Classic0 d) → Classic0 (.cat ds)
  | nest : Classic0 d → Classic0 (.nest j d)
  | group : Classic0 d → Classic0 (.group d)
  | line : Classic0 (.choice l .hardline (.text s))
  | softline : Classic0 (.choice l .hardline .nil)
  | ab : Classic0 d → Classic0 (.ab d)
  | ann : Classic0 d → Classic0 (.ann a d)

def Classic0Item : Item → Prop
  | .doc d => Classic0 d
  | .pop _ => True

def AllClassic0 (stk : List Triple) : Prop := ∀ t ∈ stk, Classic0Item t.2.2

namespace Classic0
variable {ds : List Doc} {d : Doc} {j : Int} {a : Ann} {sp : StrSpec}
attribute [simp] nil text hardline line softline
@[simp] theorem cat_iff : Classic0 (.cat ds) ↔ ∀ d ∈ ds, Classic0 d := ⟨fun | .cat h => h, .cat⟩
@[simp] theorem nest_iff : Classic0 (.nest j d) ↔ Classic0 d := ⟨fun | .nest h => h, .nest⟩
@[simp] theorem group_iff : Classic0 (.group d) ↔ Classic0 d := ⟨fun | .group h => h, .group⟩
@[simp] theorem ab_iff : Classic0 (.ab d) ↔ Classic0 d := ⟨fun | .ab h => h, .ab⟩
@[simp] theorem ann_iff : Classic0 (.ann a d) ↔ Classic0 d := ⟨fun | .ann h => h, .ann⟩
@[simp] theorem not_fill : ¬ Classic0 (.fill ds) := nofun
@[simp] theorem not_align : ¬ Classic0 (.align d) := nofun
@[simp] theorem not_pstr : ¬ Classic0 (.pstr sp) := nofun
end Classic0

@[simp] theorem allClassic0_nil : AllClassic0 [] := List.forall_mem_nil _
@[simp] theorem allClassic0_doc {i m d r} : AllClassic0 ((i, m, .doc d) :: r) ↔ Classic0 d ∧ AllClassic0 r :=
  List.forall_mem_cons
@[simp] theorem allClassic0_pop {i m a r} : AllClassic0 ((i, m, .pop a) :: r) ↔ AllClassic0 r :=
  List.forall_mem_cons.trans (and_iff_right trivial)

end PP
