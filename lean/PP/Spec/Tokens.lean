/-
Spec side of C03 / C09: what "the same program text up to layout" means for an SDoc stream.

`ctoks` reads the *code tokens* off a stream: blank text, line breaks and everything inside a COMMENT_SINGLE region are
dropped; the text of a LITERAL_STRING region is decoded as a Python literal (`Spec/Unescape.lean`) into one `lit` token;
every other text fragment is one `code` token.

`TEq` is the smallest congruence on token lists that identifies what Python's grammar identifies and layouts may vary:
implicit concatenation of adjacent string literals (`'ab'` = `'a' 'b'`, `b'ab'` = `b'a' b'b'`) and a pair of
parentheses around a run of two or more adjacent literals.
-/
import PP.Model.Combinators
import PP.Spec.Unescape
namespace PP
namespace Tok
open PyStr

inductive CT where
  | code (s : Str)
  | lit (v : Option Str)     -- decoded content of one string-literal region; `none` = not a valid literal
deriving DecidableEq, Repr

def isBlank (s : Str) : Bool := s.all (· == 32)

/-- text of a literal region `q body q` decoded with its own quote -/
def decodeLit (t : Str) : Option Str :=
  match t with
  | [] => none
  | q :: r =>
    if (q == SQ || q == DQ) && r.getLast? == some q then unescape q r.dropLast else none

inductive St where
  | normal
  | comment (k : Nat)            -- inside k+1 nested annotations, the outermost a COMMENT_SINGLE token
  | str (k : Nat) (acc : Str)    -- inside k+1 nested annotations, the outermost a LITERAL_STRING token
deriving DecidableEq, Repr

def step : St → SDoc → St × List CT
  | .normal, .text s => (.normal, if isBlank s then [] else [.code s])
  | .normal, .line _ => (.normal, [])
  | .normal, .push (.tok t) =>
      if t == Pr.tComment then (.comment 0, [])
      else if t == Pr.tStr then (.str 0 [], [])
      else (.normal, [])
  | .normal, .push _ => (.normal, [])
  | .normal, .pop _ => (.normal, [])
  | .comment k, .push _ => (.comment (k + 1), [])
  | .comment 0, .pop _ => (.normal, [])
  | .comment (k + 1), .pop _ => (.comment k, [])
  | .comment k, _ => (.comment k, [])
  | .str k acc, .text s => (.str k (acc ++ s), [])
  | .str k acc, .line _ => (.str k acc, [])
  | .str k acc, .push _ => (.str (k + 1) acc, [])
  | .str 0 acc, .pop _ => (.normal, [.lit (decodeLit acc)])
  | .str (k + 1) acc, .pop _ => (.str k acc, [])

def runCT : St → List SDoc → St × List CT
  | st, [] => (st, [])
  | st, x :: r =>
    let (st1, t1) := step st x
    let (st2, t2) := runCT st1 r
    (st2, t1 ++ t2)

/-- the code tokens of an output stream -/
def ctoks (o : List SDoc) : List CT := (runCT .normal o).2

def isLit : CT → Bool
  | .lit _ => true
  | _ => false

def isLitOrB : CT → Bool
  | .lit _ => true
  | .code s => s == [98]

inductive TEq : List CT → List CT → Prop
  | refl (a) : TEq a a
  | symm : TEq a b → TEq b a
  | trans : TEq a b → TEq b c → TEq a c
  | app : TEq a a' → TEq b b' → TEq (a ++ b) (a' ++ b')
  /-- implicit concatenation of adjacent `str` literals -/
  | split (x y : Str) : TEq [.lit (some (x ++ y))] [.lit (some x), .lit (some y)]
  /-- the same for `bytes` literals, each with its `b` prefix -/
  | splitB (x y : Str) : TEq [.code [98], .lit (some (x ++ y))] [.code [98], .lit (some x), .code [98], .lit (some y)]
  /-- parentheses around a run of two or more adjacent literals -/
  | paren (ls : List CT) : 2 ≤ (ls.filter isLit).length →
      ls.all isLitOrB = true → TEq (.code [40] :: ls ++ [.code [41]]) ls

theorem runCT_cons (st : St) (x : SDoc) (r : List SDoc) :
    runCT st (x :: r) = ((runCT (step st x).1 r).1, (step st x).2 ++ (runCT (step st x).1 r).2) := by
  simp only [runCT]

theorem runCT_append (st : St) (a b : List SDoc) :
    runCT st (a ++ b) = ((runCT (runCT st a).1 b).1, (runCT st a).2 ++ (runCT (runCT st a).1 b).2) := by
  induction a generalizing st with
  | nil => simp [runCT]
  | cons x r ih => simp only [List.cons_append, runCT_cons, ih, List.append_assoc]

theorem runCT_ann (st : St) (a : Ann) (out : List SDoc) :
    runCT st (.push a :: out ++ [.pop a]) =
      ((step (runCT (step st (.push a)).1 out).1 (.pop a)).1,
       (step st (.push a)).2 ++ (runCT (step st (.push a)).1 out).2 ++ (step (runCT (step st (.push a)).1 out).1 (.pop a)).2) := by
  rw [List.cons_append, runCT_cons, runCT_append]
  simp [runCT]

theorem runCT_comment_region (t : Nat) (ht : (t == Pr.tComment) = true) (out : List SDoc)
    (h : runCT (.comment 0) out = (.comment 0, [])) :
    runCT .normal (.push (.tok t) :: out ++ [.pop (.tok t)]) = (.normal, []) := by
  rw [runCT_ann]
  have e1 : step .normal (.push (.tok t)) = (.comment 0, []) := by simp [step, ht]
  rw [e1]; simp only []; rw [h]; rfl

theorem runCT_str_region (t : Nat) (h1 : ¬ (t == Pr.tComment) = true) (h2 : (t == Pr.tStr) = true) (out : List SDoc) (txt : Str)
    (h : runCT (.str 0 []) out = (.str 0 txt, [])) :
    runCT .normal (.push (.tok t) :: out ++ [.pop (.tok t)]) = (.normal, [.lit (decodeLit txt)]) := by
  rw [runCT_ann]
  have e1 : step .normal (.push (.tok t)) = (.str 0 [], []) := by simp [step, h1, h2]
  rw [e1]; simp only []; rw [h]; rfl

theorem runCT_other_region (a : Ann) (ha : ∀ t, a = .tok t → ¬ (t == Pr.tComment) = true ∧ ¬ (t == Pr.tStr) = true)
    (out : List SDoc) (ts : List CT) (h : runCT .normal out = (.normal, ts)) :
    runCT .normal (.push a :: out ++ [.pop a]) = (.normal, ts) := by
  rw [runCT_ann]
  have e1 : step .normal (.push a) = (.normal, []) := by
    cases a with
    | tok t => have := ha t rfl; simp [step, this.1, this.2]
    | comment s => rfl
    | other n => rfl
  rw [e1]; simp only []; rw [h]; simp [step]

end Tok
end PP
