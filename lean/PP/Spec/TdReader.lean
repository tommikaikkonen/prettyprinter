/-
Spec side of C07 for timedelta: a reader for exactly the fragment `pretty_timedelta` prints — decimal literals, `*` binding tighter
than `+`, keyword arguments of `datetime.timedelta` (an unknown or repeated keyword is an error, as in Python), unary minus on the
call.  Executable (the driver's `tdread` command runs it; the harness compares it with CPython's `eval` of the implementation's text
on every timedelta it prints); `Props/C07c.lean` proves that every layout of every timedelta reads back as the original duration.
-/
import PP.Model.Values
import PP.Spec.Canon
namespace PP.C07
open PP Doc Pr Tok

/-! ### the reader: Python's semantics on the fragment the printer emits -/

/-- value of a run of decimal digits -/
def decVal (s : Str) : Nat := s.foldl (fun a c => 10 * a + (c - 48)) 0

def isDigits (s : Str) : Bool := !s.isEmpty && s.all (fun c => decide (48 ≤ c) && decide (c ≤ 57))

/-- a decimal literal token -/
def numTok : CT → Option Int
  | .code s => if isDigits s then some (decVal s : Int) else none
  | .lit _ => none

def MUL_T : CT := .code [42]
def ADD_T : CT := .code [43]
def NEG_T : CT := .code [45]

/-- sums of products of decimal literals, `*` binding tighter than `+` (the shapes of Python's grammar the printer uses) -/
def evalExpr : List CT → Option Int
  | [a] => numTok a
  | [a, op, b] =>
    if op = MUL_T then (numTok a).bind fun x => (numTok b).map fun y => x * y
    else if op = ADD_T then (numTok a).bind fun x => (numTok b).map fun y => x + y
    else none
  | [a, op1, b, op2, c] =>
    if op1 = MUL_T ∧ op2 = ADD_T then
      (numTok a).bind fun x => (numTok b).bind fun y => (numTok c).map fun z => x * y + z
    else none
  | _ => none

/-- split an argument list at its top-level commas (the fragment has no nested brackets) -/
def splitC : List CT → List CT → List (List CT)
  | acc, [] => [acc]
  | acc, t :: r => if t = COMMA_T then acc :: splitC [] r else splitC (acc ++ [t]) r

/-- one keyword argument `name = expr` -/
def readKw : List CT → Option (Str × Int)
  | .code k :: eq :: e => if eq = EQ_T then (evalExpr e).map fun v => (k, v) else none
  | _ => none

def mapMO {α β} (f : α → Option β) : List α → Option (List β)
  | [] => some []
  | x :: r => (f x).bind fun y => (mapMO f r).map fun ys => y :: ys

/-- microseconds per unit of each keyword `datetime.timedelta` accepts and the printer uses -/
def unitOf (k : Str) : Option Int :=
  if k = str_ "days" then some 86400000000
  else if k = str_ "hours" then some 3600000000
  else if k = str_ "minutes" then some 60000000
  else if k = str_ "seconds" then some 1000000
  else if k = str_ "milliseconds" then some 1000
  else if k = str_ "microseconds" then some 1
  else none

/-- `timedelta(**kw)` in microseconds: every keyword contributes value × unit; an unknown or repeated keyword is an error -/
def tdSum : List (Str × Int) → Option Int
  | [] => some 0
  | (k, v) :: r =>
    if r.any (fun p => p.1 == k) then none
    else (unitOf k).bind fun un => (tdSum r).map fun t => un * v + t

/-- `[-] datetime.timedelta ( kw , … )` -/
def readCall : List CT → Option Int
  | .code f :: lp :: r =>
    if f = nmTimedelta.2 ∧ lp = LP ∧ r.getLast? = some RP then
      let body := r.dropLast
      if body.isEmpty then some 0
      else (mapMO readKw (splitC [] body)).bind tdSum
    else none
  | _ => none

def readTimedelta : List CT → Option Int
  | t :: r => if t = NEG_T then (readCall r).map fun v => -v else readCall (t :: r)
  | [] => none

end PP.C07
